-- Root of the `OpcuaModel` library: the executable model, helper lemmas and property theorems.
import OpcuaModel.Model.Prelude
import OpcuaModel.Model.NodeId
import OpcuaModel.Model.Graph
import OpcuaModel.Model.Order
import OpcuaModel.Model.JsonIO
import OpcuaModel.Model.Parse
import OpcuaModel.Model.Xml
import OpcuaModel.Model.Value
import OpcuaModel.Lemmas.Xml
import OpcuaModel.Lemmas.DateTime
import OpcuaModel.Model.Json
import OpcuaModel.Model.Write
import OpcuaModel.Model.Validate
import OpcuaModel.Model.Enum
import OpcuaModel.Model.Meta
import OpcuaModel.Model.Proto
import OpcuaModel.Model.Effects
import OpcuaModel.Lemmas.List
import OpcuaModel.Lemmas.MapE
import OpcuaModel.Lemmas.Parse
import OpcuaModel.Lemmas.Str
import OpcuaModel.Lemmas.Order
import OpcuaModel.Props.C01
import OpcuaModel.Props.C02
import OpcuaModel.Props.C03
import OpcuaModel.Props.C04
import OpcuaModel.Props.C05
import OpcuaModel.Props.C06
import OpcuaModel.Props.C07
import OpcuaModel.Props.C08
import OpcuaModel.Props.C09
import OpcuaModel.Props.C10
import OpcuaModel.Props.C11
import OpcuaModel.Props.C12
import OpcuaModel.Props.C13
import OpcuaModel.Props.C14
import OpcuaModel.Props.C15
import OpcuaModel.Props.C16
import OpcuaModel.Props.C17
import OpcuaModel.Props.C18
import OpcuaModel.Props.C19
import OpcuaModel.Props.C20
import OpcuaModel.Gen.NodeIdTie
