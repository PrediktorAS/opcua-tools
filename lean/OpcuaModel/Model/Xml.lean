import OpcuaModel.Model.Prelude
/-! # XmlLite: escaping (`saxutils.escape`), entity decoding, a character-level XML lexer (state machine,
structural, no fuel), a token-to-tree builder, and the writer's layout trees.  This is the model of
"a conforming XML reader" for the dialect the generator emits (elements, double-quoted attributes,
text, the five named entities).  Mathlib-free. -/
namespace Opcua.Xml
open Opcua







/-- `xml.sax.saxutils.escape` -/
def escText : Str → Str
  | [] => []
  | c :: cs =>
    if c = '&' then '&' :: 'a' :: 'm' :: 'p' :: ';' :: escText cs
    else if c = '<' then '&' :: 'l' :: 't' :: ';' :: escText cs
    else if c = '>' then '&' :: 'g' :: 't' :: ';' :: escText cs
    else c :: escText cs


/-- `escape(s, {'"': "&quot;"})` — the repaired attribute escaping -/
def escAttr : Str → Str
  | [] => []
  | c :: cs =>
    if c = '&' then '&' :: 'a' :: 'm' :: 'p' :: ';' :: escAttr cs
    else if c = '<' then '&' :: 'l' :: 't' :: ';' :: escAttr cs
    else if c = '>' then '&' :: 'g' :: 't' :: ';' :: escAttr cs
    else if c = '"' then '&' :: 'q' :: 'u' :: 'o' :: 't' :: ';' :: escAttr cs
    else c :: escAttr cs


/-- entity decoding as an XML reader does it (named entities only) -/
def decode : Str → Option Str
  | [] => some []
  | c :: cs =>
    if c = '&' then
      match cs with
      | 'a' :: 'm' :: 'p' :: ';' :: r => (decode r).map ('&' :: ·)
      | 'l' :: 't' :: ';' :: r => (decode r).map ('<' :: ·)
      | 'g' :: 't' :: ';' :: r => (decode r).map ('>' :: ·)
      | 'q' :: 'u' :: 'o' :: 't' :: ';' :: r => (decode r).map ('"' :: ·)
      | 'a' :: 'p' :: 'o' :: 's' :: ';' :: r => (decode r).map ('\'' :: ·)
      | _ => none
    else (decode cs).map (c :: ·)
termination_by s => s.length
decreasing_by all_goals simp_wf <;> omega


/-- text content is escaped either with `escape` or with the quote-aware variant (both decode to the text) -/
def escOf (qesc : Bool) (s : Str) : Str := if qesc then escAttr s else escText s

def isNameChar (c : Char) : Bool :=
  c.isAlphanum || c == ':' || c == '_' || c == '-' || c == '.'

def isWs (c : Char) : Bool := c == ' ' || c == '\n' || c == '\t'


inductive Tok
  | open (tag : Str) (attrs : List (Str × Str))
  | close (tag : Str)
  | text (s : Str)
deriving DecidableEq, Repr


inductive St
  | text (acc : Str)
  | lt
  | oname (n : Str)
  | inTag (n : Str) (as : List (Str × Str))
  | aname (n : Str) (as : List (Str × Str)) (k : Str)
  | aeq (n : Str) (as : List (Str × Str)) (k : Str)
  | aval (n : Str) (as : List (Str × Str)) (k : Str) (v : Str)
  | sc (n : Str) (as : List (Str × Str))
  | cname (n : Str)
  | err
deriving DecidableEq, Repr


/-- flush pending raw text as a decoded text token -/
def flush (toks : List Tok) (acc : Str) : Option (List Tok) :=
  if acc = [] then some toks else (decode acc).map fun s => toks ++ [Tok.text s]


def step : List Tok × St → Char → List Tok × St
  | (ts, .text acc), c =>
    if c = '<' then
      match flush ts acc with
      | some ts' => (ts', .lt)
      | none => (ts, .err)
    else (ts, .text (acc ++ [c]))
  | (ts, .lt), c =>
    if c = '/' then (ts, .cname [])
    else if isNameChar c then (ts, .oname [c]) else (ts, .err)
  | (ts, .oname n), c =>
    if isNameChar c then (ts, .oname (n ++ [c]))
    else if isWs c then (ts, .inTag n [])
    else if c = '>' then (ts ++ [.open n []], .text [])
    else if c = '/' then (ts, .sc n [])
    else (ts, .err)
  | (ts, .inTag n as), c =>
    if isWs c then (ts, .inTag n as)
    else if c = '>' then (ts ++ [.open n as], .text [])
    else if c = '/' then (ts, .sc n as)
    else if isNameChar c then (ts, .aname n as [c])
    else (ts, .err)
  | (ts, .aname n as k), c =>
    if isNameChar c then (ts, .aname n as (k ++ [c]))
    else if c = '=' then (ts, .aeq n as k)
    else (ts, .err)
  | (ts, .aeq n as k), c =>
    if c = '"' then (ts, .aval n as k []) else (ts, .err)
  | (ts, .aval n as k v), c =>
    if c = '"' then
      match decode v with
      | some d => (ts, .inTag n (as ++ [(k, d)]))
      | none => (ts, .err)
    else if c = '<' then (ts, .err)
    else (ts, .aval n as k (v ++ [c]))
  | (ts, .sc n as), c =>
    if c = '>' then (ts ++ [.open n as, .close n], .text []) else (ts, .err)
  | (ts, .cname n), c =>
    if isNameChar c then (ts, .cname (n ++ [c]))
    else if c = '>' then (ts ++ [.close n], .text [])
    else (ts, .err)
  | (ts, .err), _ => (ts, .err)


def run (st : List Tok × St) (s : Str) : List Tok × St := s.foldl step st


/-- finish: pending text is flushed -/
def lex (s : Str) : Option (List Tok) :=
  match run ([], .text []) s with
  | (ts, .text acc) => flush ts acc
  | _ => none


def NameOK (n : Str) : Prop := n ≠ [] ∧ ∀ c ∈ n, isNameChar c = true
instance (n : Str) : Decidable (NameOK n) := by unfold NameOK; infer_instance


/-! ### tags as the writer prints them -/


structure PAttr where
  ws : Str
  k : Str
  v : Str


def PAttr.OK (a : PAttr) : Prop := (∀ c ∈ a.ws, isWs c = true) ∧ NameOK a.k


def printAttr (a : PAttr) : Str := a.ws ++ a.k ++ ['=', '"'] ++ escAttr a.v ++ ['"']


def printAttrs (as : List PAttr) : Str := as.flatMap printAttr


/-- `<tag attr… trail>`; the code's layout puts its own blanks in `ws`/`trail` -/
def printOpen (tag : Str) (ps : List PAttr) (trail : Str) : Str :=
  '<' :: (tag ++ (printAttrs ps ++ (trail ++ ['>'])))


def printClose (tag : Str) : Str := '<' :: '/' :: (tag ++ ['>'])


/-- an open tag is well laid out if the first thing after the name is blank or `>` -/
def OpenOK (tag : Str) (ps : List PAttr) (trail : Str) : Prop :=
  NameOK tag ∧ (∀ a ∈ ps, a.OK) ∧ (∀ c ∈ trail, isWs c = true) ∧
  (∀ a, ps.head? = some a → a.ws ≠ [])


/-! ### trees: layout-carrying `X` (what the writer emits) and data tree `T` (what a reader sees) -/

mutual
inductive X
  | node (tag : Str) (attrs : List PAttr) (trail : Str) (qesc : Bool) (text : Str) (kids : XS)
inductive XS
  | nil
  | cons (x : X) (xs : XS)
end


mutual
inductive T
  | node (tag : Str) (attrs : List (Str × Str)) (text : Str) (kids : TS)
inductive TS
  | nil
  | cons (t : T) (ts : TS)
end


mutual
def render : X → Str
  | .node tag attrs trail qesc text kids =>
    printOpen tag attrs trail ++ (escOf qesc text ++ (renderS kids ++ printClose tag))
def renderS : XS → Str
  | .nil => []
  | .cons x xs => render x ++ renderS xs
end


mutual
def strip : X → T
  | .node tag attrs _ _ text kids => .node tag (attrs.map fun a => (a.k, a.v)) text (stripS kids)
def stripS : XS → TS
  | .nil => .nil
  | .cons x xs => .cons (strip x) (stripS xs)
end


def textTok (s : Str) : List Tok := if s = [] then [] else [Tok.text s]


mutual
def tokens : T → List Tok
  | .node tag attrs text kids =>
    Tok.open tag attrs :: (textTok text ++ (tokensS kids ++ [Tok.close tag]))
def tokensS : TS → List Tok
  | .nil => []
  | .cons t ts => tokens t ++ tokensS ts
end


mutual
def WF : X → Prop
  | .node tag attrs trail _ _ kids => OpenOK tag attrs trail ∧ WFS kids
def WFS : XS → Prop
  | .nil => True
  | .cons x xs => WF x ∧ WFS xs
end


def takeText : List Tok → Str × List Tok
  | .text s :: r => (s, r)
  | l => ([], l)


mutual
def buildNode : Nat → List Tok → Option (T × List Tok)
  | 0, _ => none
  | f+1, toks =>
    match toks with
    | .open tag as :: r =>
      let tr := takeText r
      match buildKids f tr.2 with
      | some (kids, .close tag' :: r2) =>
        if tag' = tag then some (.node tag as tr.1 kids, r2) else none
      | _ => none
    | _ => none
def buildKids : Nat → List Tok → Option (TS × List Tok)
  | 0, _ => none
  | f+1, toks =>
    match toks with
    | .open tag as :: r =>
      match buildNode f (.open tag as :: r) with
      | some (k, r1) =>
        match buildKids f r1 with
        | some (ks, r2) => some (.cons k ks, r2)
        | none => none
      | none => none
    | _ => some (.nil, toks)
end


mutual
def sizeT : T → Nat
  | .node _ _ _ kids => 2 + sizeTS kids
def sizeTS : TS → Nat
  | .nil => 1
  | .cons t ts => 1 + sizeT t + sizeTS ts
end


/-- the reader: characters → tree -/
def parseXml (s : Str) : Option T :=
  match lex s with
  | some toks =>
    match buildNode (2 * toks.length) toks with
    | some (t, []) => some t
    | _ => none
  | none => none


def T.tag : T → Str | .node t _ _ _ => t
def T.attrs : T → List (Str × Str) | .node _ a _ _ => a
def T.text : T → Str | .node _ _ t _ => t
def T.kids : T → TS | .node _ _ _ k => k

end Opcua.Xml
