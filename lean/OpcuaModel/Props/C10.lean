import OpcuaModel.Model.Json
import OpcuaModel.Lemmas.Str
/-! # C10 — JSON encodings are valid JSON of the right shape and lose nothing.

The encoders concatenate compact JSON text. The strict reader is followed through that text once: a quoted
string (`readValue_quote`), a decimal number (`readValue_nat`), one member (`readMembers_member`) and from there
a whole object (`readValue_members`); each `…_valid` theorem then only has to spell the encoder's text as the text
of a list of members (`objText`). -/
namespace Opcua.C10
open Opcua

theorem hex_roundtrip (n : Nat) (h : n < 16) : hexVal (hexDigit n) = some n := by
  revert n; decide

theorem readBody_escChar (c : Char) (rest : Str) :
    readBody (escChar c ++ rest) = (readBody rest).map fun p => (c :: p.1, p.2) := by
  -- the seven characters with a two-letter escape: both sides evaluate
  by_cases h1 : c = '"'; · subst h1; rw [readBody.eq_def]; rfl
  by_cases h2 : c = '\\'; · subst h2; rw [readBody.eq_def]; rfl
  by_cases h3 : c = '\n'; · subst h3; rw [readBody.eq_def]; rfl
  by_cases h4 : c = '\r'; · subst h4; rw [readBody.eq_def]; rfl
  by_cases h5 : c = '\t'; · subst h5; rw [readBody.eq_def]; rfl
  by_cases h6 : c = Char.ofNat 8; · subst h6; rw [readBody.eq_def]; rfl
  by_cases h7 : c = Char.ofNat 12; · subst h7; rw [readBody.eq_def]; rfl
  rw [readBody.eq_def]
  by_cases h8 : c.toNat < 32
  · -- `\u00XY`: the two hexadecimal digits give the code point back
    have e : c.toNat / 16 * 16 + c.toNat % 16 = c.toNat := by omega
    simp [escChar, h1, h2, h3, h4, h5, h6, h7, h8, show hexVal '0' = some 0 from by decide,
      hex_roundtrip (c.toNat / 16) (by omega), hex_roundtrip (c.toNat % 16) (by omega), e, Char.ofNat_toNat]
  · simp [escChar, h1, h2, h3, h4, h5, h6, h7, h8]

/-- **quote_roundtrip**: for every string (quotes, backslashes, control and non-ASCII characters)
    the strict reader gives back exactly the string, and stops right after the closing quote. -/
theorem readBody_escBody (s rest : Str) : readBody (escBody s ++ '"' :: rest) = some (s, rest) := by
  induction s with
  | nil => rw [readBody.eq_def]; rfl
  | cons c cs ih => rw [escBody, List.append_assoc, readBody_escChar, ih]; rfl

theorem pyJsonQuote_append (s rest : Str) : pyJsonQuote s ++ rest = '"' :: (escBody s ++ '"' :: rest) := by
  simp [pyJsonQuote]

theorem readString_quote (s rest : Str) : readString (pyJsonQuote s ++ rest) = some (s, rest) := by
  rw [pyJsonQuote_append]
  exact readBody_escBody s rest

theorem skipWs_cons {c : Char} {r : Str} (h : isJsWs c = false) : skipWs (c :: r) = c :: r :=
  dropWhile_of_head c r h

/-- a quoted string is read as a JSON string value, with any fuel -/
theorem readValue_quote (f : Nat) (s rest : Str) :
    readValue (f + 1) (pyJsonQuote s ++ rest) = some (.str s, rest) := by
  rw [pyJsonQuote_append, readValue, skipWs_cons (by decide)]
  simp [readBody_escBody]

theorem jsonEncode_str (fs : Int → Str) (s : Str) : jsonEncode fs (.str (some s)) = .ok (some (pyJsonQuote s)) := rfl

/-- null values are reported as `None`, never as text -/
theorem null_is_none (fs : Int → Str) :
    jsonEncode fs (.str none) = .ok none ∧ jsonEncode fs (.bool none) = .ok none ∧
    (∀ k, jsonEncode fs (.int k none) = .ok none) ∧ (∀ d, jsonEncode fs (.flt d none) = .ok none) :=
  ⟨rfl, rfl, fun _ => rfl, fun _ => rfl⟩

/-- Booleans are JSON literals -/
theorem bool_valid (fs : Int → Str) (b : Bool) :
    ∃ t, jsonEncode fs (.bool (some b)) = .ok (some t) ∧ parseJson t = some (.bool b) := by
  cases b
  · exact ⟨"false".toList, rfl, rfl⟩
  · exact ⟨"true".toList, rfl, rfl⟩

/-! ### numbers: `str(int)` is a JSON number token, read back digit for digit -/

theorem takeDigits_showNat (n : Nat) (rest : Str) (hr : ∀ c, rest.head? = some c → isDigitC c = false) :
    takeDigits (showNat n ++ rest) = (showNat n, rest) := by
  have hall : ∀ c ∈ showNat n, ('0' ≤ c && c ≤ '9') = true := fun c hc => (showNat_digits n c hc).test
  unfold takeDigits
  rw [List.takeWhile_append_of_pos hall, List.dropWhile_append_of_pos hall]
  cases rest with
  | nil => simp
  | cons c r => simp [show ('0' ≤ c && c ≤ '9') = false from hr c rfl]

/-- what may follow a number inside an object: not a digit, not a fraction or exponent mark -/
def EndsNumber (tail : Str) : Prop := ∀ c, tail.head? = some c → isDigitC c = false ∧ c ≠ '.' ∧ c ≠ 'e' ∧ c ≠ 'E'

theorem endsNumber_nil : EndsNumber [] := nofun
theorem endsNumber_comma (r : Str) : EndsNumber (',' :: r) := by
  intro c h; simp at h; subst h; decide
theorem endsNumber_brace (r : Str) : EndsNumber ('}' :: r) := by
  intro c h; simp at h; subst h; decide

theorem readNumber_nat_tail (n : Nat) (tail : Str) (ht : EndsNumber tail) :
    readNumber (showNat n ++ tail) = some (showNat n, tail) := by
  have hne := showNat_ne_nil n
  have hsg : readSign (showNat n ++ tail) = ([], showNat n ++ tail) := by
    obtain ⟨x, xs, hs, hx⟩ := showNat_eq_cons n
    rw [hs, List.cons_append]
    unfold readSign
    split
    · next h => cases h; exact absurd hx (by decide)
    · rfl
  have htd := takeDigits_showNat n tail (fun c hc => (ht c hc).1)
  unfold readNumber
  simp only [hsg, htd, hne, false_or, showNat_no_leading_zero n, if_false]
  cases tail with
  | nil => simp [readFrac, readExp]
  | cons c r =>
    obtain ⟨_, h1, h2, h3⟩ := ht c rfl
    have hf : readFrac (c :: r) = some ([], c :: r) := by
      unfold readFrac
      split
      · next h => injection h with hh _; exact absurd hh h1
      · rfl
    simp [hf, readExp, h2, h3]

theorem readValue_nat (f n : Nat) (tail : Str) (ht : EndsNumber tail) :
    readValue (f + 1) (showNat n ++ tail) = some (.num (showNat n), tail) := by
  have hnum := readNumber_nat_tail n tail ht
  obtain ⟨c, cs, hs, hd⟩ := showNat_eq_cons n
  have hws : isJsWs c = false := by
    simp [isJsWs, hd.ne (d := ' ') (by decide), hd.ne (d := '\n') (by decide), hd.ne (d := '\t') (by decide),
      hd.ne (d := '\r') (by decide)]
  rw [hs] at hnum ⊢
  simp only [List.cons_append] at hnum ⊢
  rw [readValue, skipWs_cons hws]
  simp [hd.ne (d := '"') (by decide), hd.ne (d := '[') (by decide), hd.ne (d := '{') (by decide), isDigitC, hd.test, hnum]

/-! ### values in context, and whole texts -/

/-- `vt` is read as the value `v`, with any fuel above `d`, in front of any tail that could not continue a
    number (in the compact encodings: nothing, `,` or `}`) -/
def ReadsAt (d : Nat) (vt : Str) (v : JsonV) : Prop :=
  ∀ f tail, d ≤ f → EndsNumber tail → readValue (f + 1) (vt ++ tail) = some (v, tail)

theorem readsAt_quote {d : Nat} (s : Str) : ReadsAt d (pyJsonQuote s) (.str s) :=
  fun f tail _ _ => readValue_quote f s tail

theorem readsAt_nat {d : Nat} (n : Nat) : ReadsAt d (showNat n) (.num (showNat n)) :=
  fun f tail _ ht => readValue_nat f n tail ht

/-- `json.loads` of a text that the value reader reads: the fuel `parseJson` starts with is the length of the text plus one -/
theorem parseJson_of_readsAt {d : Nat} {vt : Str} {v : JsonV} (h : ReadsAt d vt v) (hd : d ≤ vt.length) :
    parseJson vt = some v := by
  have := h vt.length [] hd endsNumber_nil
  rw [List.append_nil] at this
  simp [parseJson, this, skipWs]

/-- **strings lose nothing**: `json_encode` of a string value is valid JSON and decodes to exactly
    the same characters -/
theorem string_valid (s : Str) : parseJson (pyJsonQuote s) = some (.str s) :=
  parseJson_of_readsAt (readsAt_quote (d := 0) s) (by omega)

/-- **integers up to 32 bits**: the encoding is a JSON number whose token is the integer's decimal
    text — every digit is kept (non-negative case; the sign is one more leading character) -/
theorem int32_valid (fs : Int → Str) (k : IntKind) (hk : is64 k = false) (n : Nat) :
    jsonEncode fs (.int k (some (n : Int))) = .ok (some (showNat n)) ∧
    parseJson (showNat n) = some (.num (showNat n)) :=
  ⟨by simp [jsonEncode, hk, pyStrInt], parseJson_of_readsAt (readsAt_nat (d := 0) n) (by omega)⟩

/-- the 64-bit encoders go through `float` — `2^53 + 1` does not survive (finding D-C10a);
    stated on the model with CPython's `str(float(2^53+1))` as input -/
theorem int64_witness : jsonEncode (fun _ => "9007199254740992.0".toList) (.int .int64 (some 9007199254740993)) =
    .ok (some "\"9007199254740992.0\"".toList) := by
  simp [jsonEncode, is64]

/-- NodeId / QualifiedName text is not escaped: a quote in the identifier gives invalid JSON (D-C10b) -/
theorem nodeid_quote_witness : nodeIdJson ⟨0, .s, "a\"b".toList⟩ = "{\"IdType\":1,\"Id\":\"a\"b\"}".toList := by decide +kernel

/-- one `"key":value` member followed by `tail`, for any value text that the value reader reads back -/
theorem readMembers_member (f : Nat) (k vt tail : Str) (v : JsonV)
    (hv : readValue (f + 1) (vt ++ tail) = some (v, tail))
    (rest : List (Str × JsonV)) (after : Str)
    (htail : (tail = '}' :: after ∧ rest = []) ∨
             (∃ r4, tail = ',' :: r4 ∧ readMembers (f + 1) r4 = some (rest, after))) :
    readMembers (f + 2) (pyJsonQuote k ++ ':' :: (vt ++ tail)) = some ((k, v) :: rest, after) := by
  rw [pyJsonQuote_append, readMembers, skipWs_cons (by decide)]
  simp only [readBody_escBody]
  rw [skipWs_cons (by decide)]
  simp only [hv]
  rcases htail with ⟨ht, hr⟩ | ⟨r4, ht, hm⟩
  · subst ht; subst hr
    rw [skipWs_cons (by decide)]
    simp
  · subst ht
    rw [skipWs_cons (by decide)]
    simp [hm]

/-- one `"key":"string value"` member followed by `tail`, read with any fuel ≥ 2 -/
theorem readMembers_strMember (f : Nat) (k v tail : Str) (hk : escBody k = k)
    (rest : List (Str × JsonV)) (after : Str)
    (htail : (tail = '}' :: after ∧ rest = []) ∨
             (∃ r4, tail = ',' :: r4 ∧ readMembers (f + 1) r4 = some (rest, after))) :
    readMembers (f + 2) (pyJsonQuote k ++ ':' :: (pyJsonQuote v ++ tail)) = some ((k, .str v) :: rest, after) :=
  readMembers_member f k (pyJsonQuote v) tail (.str v) (readValue_quote f v tail) rest after htail

/-- a member of an object: its key, the text of its value, the value, and that the text is read as the value
    (with any fuel above `d`) -/
structure Member (d : Nat) where
  key : Str
  text : Str
  val : JsonV
  reads : ReadsAt d text val

def Member.str {d : Nat} (k s : Str) : Member d := ⟨k, pyJsonQuote s, .str s, readsAt_quote s⟩
def Member.nat {d : Nat} (k : Str) (n : Nat) : Member d := ⟨k, showNat n, .num (showNat n), readsAt_nat n⟩

/-- what follows the value of a member: the further members, a comma before each, and the closing brace -/
def moreText {d : Nat} : List (Member d) → Str
  | [] => ['}']
  | m :: r => ',' :: (pyJsonQuote m.key ++ ':' :: (m.text ++ moreText r))

/-- the compact text of the object with these members -/
def objText {d : Nat} : List (Member d) → Str
  | [] => ['{', '}']
  | m :: r => '{' :: (pyJsonQuote m.key ++ ':' :: (m.text ++ moreText r))

/-- a member and those after it are read back, one unit of fuel per member -/
theorem readMembers_more {d : Nat} (m : Member d) (r : List (Member d)) (f : Nat) (hf : d + r.length ≤ f) (after : Str) :
    readMembers (f + 2) (pyJsonQuote m.key ++ ':' :: (m.text ++ (moreText r ++ after))) =
      some ((m :: r).map fun m => (m.key, m.val), after) := by
  induction r generalizing m f with
  | nil =>
    exact readMembers_member f m.key m.text _ m.val (m.reads _ _ (by omega) (endsNumber_brace _)) [] after (Or.inl ⟨rfl, rfl⟩)
  | cons n r ih =>
    simp only [List.length_cons] at hf
    obtain ⟨f, rfl⟩ : ∃ g, f = g + 1 := ⟨f - 1, by omega⟩
    have ihr := ih n f (by omega)
    simp only [moreText, List.append_assoc, List.cons_append]
    exact readMembers_member (f + 1) m.key m.text _ m.val (m.reads _ _ (by omega) (endsNumber_comma _)) _ after (Or.inr ⟨_, rfl, ihr⟩)

theorem readValue_obj (f : Nat) (r' : Str) (ms : List (Str × JsonV)) (after : Str)
    (hm : readMembers f ('"' :: r') = some (ms, after)) :
    readValue (f + 1) ('{' :: '"' :: r') = some (.obj ms, after) := by
  rw [readValue, skipWs_cons (by decide)]
  simp only [show ('{' : Char) ≠ '"' from by decide, show ('{' : Char) ≠ '[' from by decide, if_false, if_true]
  rw [skipWs_cons (by decide)]
  simp [hm]

/-- **objects**: the text of an object is read back as the object of its members, whatever follows -/
theorem readValue_members {d : Nat} (ms : List (Member d)) (f : Nat) (hf : d + ms.length + 1 ≤ f) (after : Str) :
    readValue (f + 1) (objText ms ++ after) = some (.obj (ms.map fun m => (m.key, m.val)), after) := by
  cases ms with
  | nil => simp [objText, readValue, skipWs, isJsWs]
  | cons m r =>
    simp only [List.length_cons] at hf
    obtain ⟨f, rfl⟩ : ∃ g, f = g + 2 := ⟨f - 2, by omega⟩
    have hm := readMembers_more m r f (by omega) after
    rw [pyJsonQuote_append] at hm
    simp only [objText, List.cons_append, List.append_assoc, pyJsonQuote_append]
    exact readValue_obj _ _ _ after hm

/-- every member takes at least four characters: two quotes, the colon, and a comma or the closing brace -/
theorem moreText_length {d : Nat} (ms : List (Member d)) : 4 * ms.length + 1 ≤ (moreText ms).length := by
  induction ms with
  | nil => simp [moreText]
  | cons m r ih =>
    simp only [moreText, List.length_append, List.length_cons, pyJsonQuote]
    omega

/-- **an object text is valid JSON of the right shape**: `json.loads` gives the object of the members.
    `parseJson` starts with the length of the text plus one as fuel; by `moreText_length` that is at least
    `4 * ms.length + 2`, of which the members need `d + ms.length + 2`: hence `hlen`. -/
theorem parseJson_members {d : Nat} (ms : List (Member d)) (hlen : d ≤ 3 * ms.length) :
    parseJson (objText ms) = some (.obj (ms.map fun m => (m.key, m.val))) := by
  refine parseJson_of_readsAt (d := d + ms.length + 1) (fun f tail hf _ => readValue_members ms f hf tail) ?_
  cases ms with
  | nil => simp only [objText, List.length_cons, List.length_nil] at hlen ⊢; omega
  | cons m r =>
    have := moreText_length r
    simp only [objText, List.length_append, List.length_cons, pyJsonQuote] at hlen this ⊢
    omega

def kText : Str := "Text".toList
def kLocale : Str := "Locale".toList
theorem textKey_eq : "{\"Text\":".toList = '{' :: (pyJsonQuote kText ++ [':']) := by decide
theorem localeKey_eq : ",\"Locale\":".toList = ',' :: (pyJsonQuote kLocale ++ [':']) := by decide

/-- **LocalizedText has the right shape and loses nothing**: the encoding is one JSON object whose
    `Text` member is exactly the text and whose `Locale` member, present iff the value has a
    locale, is exactly the locale — for every text and locale (quotes, backslashes, control and
    non-ASCII characters included) -/
theorem locText_valid (fs : Int → Str) (t : Str) (l : Option Str) :
    ∃ j, jsonEncode fs (.locText (some t) l) = .ok (some j) ∧
      parseJson j = some (.obj ((kText, .str t) :: (match l with | none => [] | some x => [(kLocale, .str x)]))) := by
  refine ⟨ltJson (some t) l, rfl, ?_⟩
  have hshape : ltJson (some t) l = objText ((.str kText t : Member 0) :: (match l with | none => [] | some x => [.str kLocale x])) := by
    unfold ltJson
    rw [textKey_eq, localeKey_eq]
    cases l <;> simp [objText, moreText, Member.str]
  rw [hshape, parseJson_members _ (by simp)]
  cases l <;> rfl

/-! ### object shapes with number members: NodeId and QualifiedName -/

def kNamespace : Str := "Namespace".toList
def kIdType : Str := "IdType".toList
def kId : Str := "Id".toList

theorem nsKey_eq : "\"Namespace\":".toList = pyJsonQuote kNamespace ++ [':'] := by decide
theorem idTypeKey_eq : "\"IdType\":".toList = pyJsonQuote kIdType ++ [':'] := by decide
theorem idKey_eq : "\"Id\":".toList = pyJsonQuote kId ++ [':'] := by decide
theorem idKeyQ_eq : "\"Id\":\"".toList = pyJsonQuote kId ++ [':', '"'] := by decide

/-- the `Namespace` member, present iff the index is not 0, in front of the other members -/
def nsMember (ns : Nat) (rest : List (Member 0)) : List (Member 0) :=
  if ns = 0 then rest else .nat kNamespace ns :: rest

theorem nodeIdJson_numeric (ns k : Nat) :
    nodeIdJson ⟨(ns : Int), .i, showNat k⟩ = objText (nsMember ns [.nat kId k]) := by
  by_cases h0 : ns = 0 <;> simp [nodeIdJson, nsMember, idKey_eq, nsKey_eq, pyStrInt, h0, objText, moreText, Member.nat]

theorem nsMember_vals (ns : Nat) (rest : List (Member 0)) :
    (nsMember ns rest).map (fun m => (m.key, m.val)) =
      (if ns = 0 then [] else [(kNamespace, .num (showNat ns))]) ++ rest.map fun m => (m.key, m.val) := by
  by_cases h0 : ns = 0 <;> simp [nsMember, h0, Member.nat]

/-- **numeric NodeIds have the right shape and lose nothing**: the encoding of `ns=<n>;i=<k>` is one JSON
    object with the member `Id` holding exactly the digits of `k` as a number and, iff the namespace
    index is not 0, a member `Namespace` holding exactly the digits of `n` -/
theorem nodeId_numeric_valid (ns k : Nat) :
    parseJson (nodeIdJson ⟨(ns : Int), .i, showNat k⟩) =
      some (.obj ((if ns = 0 then [] else [(kNamespace, .num (showNat ns))]) ++ [(kId, .num (showNat k))])) := by
  rw [nodeIdJson_numeric, parseJson_members _ (by omega), nsMember_vals]
  rfl

theorem idType_digit (ty : IdType) : [digitChar (idTypeInt ty)] = showNat (idTypeInt ty) :=
  (showNat_of_lt (by cases ty <;> decide)).symm

/-- **string, GUID and opaque NodeIds** whose identifier needs no JSON escape (no quote, backslash or
    control character — finding D-C10b is what happens otherwise): one JSON object with `IdType`, the
    identifier as the string member `Id`, character for character, and `Namespace` iff it is not 0 -/
theorem nodeId_text_valid (ns : Nat) (ty : IdType) (hty : ty ≠ .i) (ident : Str) (hid : escBody ident = ident) :
    parseJson (nodeIdJson ⟨(ns : Int), ty, ident⟩) =
      some (.obj ((if ns = 0 then [] else [(kNamespace, .num (showNat ns))]) ++
        [(kIdType, .num (showNat (idTypeInt ty))), (kId, .str ident)])) := by
  have hshape : nodeIdJson ⟨(ns : Int), ty, ident⟩ = objText (nsMember ns [.nat kIdType (idTypeInt ty), .str kId ident]) := by
    have hidq : "\"Id\":\"".toList ++ ident ++ ['"'] = pyJsonQuote kId ++ ':' :: pyJsonQuote ident := by
      rw [idKeyQ_eq]; simp [pyJsonQuote, hid]
    unfold nodeIdJson
    simp only [hty, if_false, hidq, idTypeKey_eq, idType_digit, nsKey_eq, pyStrInt]
    by_cases h0 : ns = 0 <;> simp [h0, nsMember, objText, moreText, Member.nat, Member.str]
  rw [hshape, parseJson_members _ (by omega), nsMember_vals]
  rfl

def kName : Str := "Name".toList
def kUri : Str := "Uri".toList
theorem nameKeyQ_eq : "{\"Name\":\"".toList = '{' :: (pyJsonQuote kName ++ [':', '"']) := by decide
theorem uriKey_eq : ",\"Uri\":".toList = ',' :: (pyJsonQuote kUri ++ [':']) := by decide

/-- **QualifiedName** whose name needs no JSON escape: one object with the string member `Name`,
    character for character, and the member `Uri` (the namespace index as a number) iff it is not 0 -/
theorem qname_valid (fs : Int → Str) (ns : Nat) (name : Str) (hname : escBody name = name) :
    ∃ j, jsonEncode fs (.qname ns name) = .ok (some j) ∧
      parseJson j = some (.obj ((kName, .str name) :: (if ns = 0 then [] else [(kUri, .num (showNat ns))]))) := by
  refine ⟨_, by rw [jsonEncode], ?_⟩
  have hshape : "{\"Name\":\"".toList ++ name ++ ['"'] ++ (if ns = 0 then [] else ",\"Uri\":".toList ++ showNat ns) ++ ['}'] =
      objText ((.str kName name : Member 0) :: (if ns = 0 then [] else [.nat kUri ns])) := by
    rw [nameKeyQ_eq, uriKey_eq]
    by_cases h0 : ns = 0 <;> simp [pyJsonQuote, hname, h0, objText, moreText, Member.nat, Member.str]
  rw [hshape, parseJson_members _ (by simp)]
  by_cases h0 : ns = 0 <;> simp [h0, Member.nat, Member.str]

theorem nodeId_encode (fs : Int → Str) (n : NodeId) : jsonEncode fs (.nodeId n) = .ok (some (nodeIdJson n)) := by rw [jsonEncode]

/-! ### nested objects: Variant and ExtensionObject -/

def kType : Str := "Type".toList
def kBody : Str := "Body".toList
theorem typeKey_eq : "{\"Type\":".toList = '{' :: (pyJsonQuote kType ++ [':']) := by decide
theorem bodyKey_eq : ",\"Body\":".toList = ',' :: (pyJsonQuote kBody ++ [':']) := by decide

/-- **Variant has the right shape**: whenever the encoding `body` of the inner value is read back as the
    JSON value `v` (in front of a closing brace, with whatever fuel — which a string or a number is, a non-empty
    nested object is not), the Variant's encoding is the object `{"Type": <built-in type number>, "Body": v}` -/
theorem variant_shape (n : Nat) (body : Str) (v : JsonV)
    (hv : ∀ f, readValue (f + 1) (body ++ ['}']) = some (v, ['}'])) :
    parseJson ("{\"Type\":".toList ++ showNat n ++ ",\"Body\":".toList ++ body ++ ['}']) =
      some (.obj [(kType, .num (showNat n)), (kBody, v)]) := by
  have hshape : "{\"Type\":".toList ++ showNat n ++ ",\"Body\":".toList ++ body ++ ['}'] =
      '{' :: (pyJsonQuote kType ++ ':' :: (showNat n ++ (',' :: (pyJsonQuote kBody ++ ':' :: (body ++ ['}']))))) := by
    rw [typeKey_eq, bodyKey_eq]; simp
  -- the body is only known to be read in front of `}`, so the two members are followed by hand
  obtain ⟨m, hm⟩ := Nat.exists_eq_add_of_le' (show 2 ≤ (pyJsonQuote kType ++ ':' :: (showNat n ++
    (',' :: (pyJsonQuote kBody ++ ':' :: (body ++ ['}']))))).length from by simp [pyJsonQuote]; omega)
  have hin := readMembers_member m kBody body ['}'] v (hv m) [] [] (Or.inl ⟨rfl, rfl⟩)
  have hmem := readMembers_member (m + 1) kType (showNat n) _ (.num (showNat n)) (readValue_nat (m + 1) n _ (endsNumber_comma _)) _ []
    (Or.inr ⟨_, rfl, hin⟩)
  rw [pyJsonQuote_append] at hmem
  have hobj := readValue_obj _ _ _ _ hmem
  rw [← pyJsonQuote_append] at hobj
  rw [hshape, parseJson, List.length_cons, hm, hobj]
  rfl

/-- … instantiated: a Variant holding a string -/
theorem variant_string_valid (fs : Int → Str) (s : Str) :
    ∃ j, jsonEncode fs (.variant (.str (some s))) = .ok (some j) ∧
      parseJson j = some (.obj [(kType, .num (showNat 12)), (kBody, .str s)]) :=
  ⟨_, by simp [jsonEncode, variantTypeOf], variant_shape 12 (pyJsonQuote s) (.str s) (fun f => readValue_quote f s _)⟩

/-- … and a Variant holding a non-negative integer of at most 32 bits -/
theorem variant_int_valid (fs : Int → Str) (k : IntKind) (hk : is64 k = false) (t : Nat) (ht : variantNumber k.tag = some t) (n : Nat) :
    ∃ j, jsonEncode fs (.variant (.int k (some (n : Int)))) = .ok (some j) ∧
      parseJson j = some (.obj [(kType, .num (showNat t)), (kBody, .num (showNat n))]) :=
  ⟨_, by simp [jsonEncode, variantTypeOf, hk, ht, pyStrInt],
    variant_shape t (showNat n) (.num (showNat n)) (fun f => readValue_nat f n _ (endsNumber_brace _))⟩

/-- a numeric NodeId object inside a larger text, read with any fuel ≥ 4 -/
theorem nodeId_numeric_read (ns k f : Nat) (after : Str) :
    readValue (f + 4) (nodeIdJson ⟨(ns : Int), .i, showNat k⟩ ++ after) =
      some (.obj ((if ns = 0 then [] else [(kNamespace, .num (showNat ns))]) ++ [(kId, .num (showNat k))]), after) := by
  have hl : (nsMember ns [.nat kId k]).length ≤ 2 := by unfold nsMember; split <;> simp
  rw [nodeIdJson_numeric, readValue_members _ _ (by omega), nsMember_vals]
  rfl

/-- … hence a member of a larger object (`3`: `nodeId_numeric_read` needs fuel `f + 4`) -/
def Member.nodeId (key : Str) (ns k : Nat) : Member 3 :=
  ⟨key, nodeIdJson ⟨(ns : Int), .i, showNat k⟩, .obj ((if ns = 0 then [] else [(kNamespace, .num (showNat ns))]) ++ [(kId, .num (showNat k))]),
    fun f tail hf _ => by obtain ⟨f, rfl⟩ := Nat.exists_eq_add_of_le' hf; exact nodeId_numeric_read ns k f tail⟩

def kTypeId : Str := "TypeId".toList
def kEncoding : Str := "Encoding".toList
theorem typeIdKey_eq : "{\"TypeId\":".toList = '{' :: (pyJsonQuote kTypeId ++ [':']) := by decide
theorem encKey_eq : ",\"Encoding\":2}".toList = ',' :: (pyJsonQuote kEncoding ++ [':', '2', '}']) := by decide

/-- **extension objects with an XML body and a numeric type id**: one object with the type id as a NodeId
    object, the body as a JSON string holding the XML text character for character, and `Encoding` 2 -/
theorem extObj_valid (fs : Int → Str) (ns k : Nat) (body : Xml.T) :
    ∃ j, jsonEncode fs (.extObj ⟨(ns : Int), .i, showNat k⟩ body) = .ok (some j) ∧
      parseJson j = some (.obj [(kTypeId, .obj ((if ns = 0 then [] else [(kNamespace, .num (showNat ns))]) ++ [(kId, .num (showNat k))])),
                                (kBody, .str (Xml.render (layoutT body))), (kEncoding, .num ['2'])]) := by
  refine ⟨_, by rw [jsonEncode], ?_⟩
  have h2 : showNat 2 = ['2'] := showNat_of_lt (by decide)
  have hshape : "{\"TypeId\":".toList ++ nodeIdJson ⟨(ns : Int), .i, showNat k⟩ ++ ",\"Body\":".toList ++
      pyJsonQuote (Xml.render (layoutT body)) ++ ",\"Encoding\":2}".toList =
      objText [.nodeId kTypeId ns k, .str kBody (Xml.render (layoutT body)), .nat kEncoding 2] := by
    rw [typeIdKey_eq, bodyKey_eq, encKey_eq]
    simp [objText, moreText, Member.nodeId, Member.str, Member.nat, h2]
  rw [hshape, parseJson_members _ (by simp)]
  simp [Member.nodeId, Member.str, Member.nat, h2]

/-! ### non-vacuity -/
example : parseJson (nodeIdJson ⟨2, .s, "Pump 1".toList⟩) =
    some (.obj [(kNamespace, .num ['2']), (kIdType, .num ['1']), (kId, .str "Pump 1".toList)]) := by
  have := nodeId_text_valid 2 .s (by decide) "Pump 1".toList (by decide)
  have d2 : digitChar 2 = '2' := by decide
  have d1 : digitChar 1 = '1' := by decide
  simpa [showNat, idTypeInt, d1, d2] using this
example : parseJson (pyJsonQuote ['a', '"', '\\', '\n', Char.ofNat 1, 'é']) = some (.str ['a', '"', '\\', '\n', Char.ofNat 1, 'é']) :=
  string_valid _
end Opcua.C10
