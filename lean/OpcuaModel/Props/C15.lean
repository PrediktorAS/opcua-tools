import OpcuaModel.Model.Effects
/-! # C15 — queries and writes leave the graph unchanged; results do not depend on history -/
namespace Opcua.C15
open Opcua Opcua.Eff

variable {S Op Out : Type}

/-- no operation changes the state -/
def ReadOnly (sys : Sys S Op Out) : Prop := ∀ s op, (sys.step s op).1 = s

theorem run_eq (sys : Sys S Op Out) (h : ReadOnly sys) (s : S) (ops : List Op) :
    sys.run s ops = (s, ops.map fun op => (sys.step s op).2) := by
  induction ops with
  | nil => rfl
  | cons op r ih => simp only [Sys.run, List.map_cons]; rw [h s op, ih]

/-- **state unchanged after any history** -/
theorem run_state (sys : Sys S Op Out) (h : ReadOnly sys) (s : S) (ops : List Op) : (sys.run s ops).1 = s :=
  congrArg Prod.fst (run_eq sys h s ops)

/-- **history independence**: every output of a history is the output of that operation on the
    initial (freshly built) state -/
theorem history_independent (sys : Sys S Op Out) (h : ReadOnly sys) (s : S) (ops : List Op) :
    (sys.run s ops).2 = ops.map fun op => (sys.step s op).2 :=
  congrArg Prod.snd (run_eq sys h s ops)

/-- the i-th step of any history returns what that operation returns on a fresh state -/
theorem output_at (sys : Sys S Op Out) (h : ReadOnly sys) (s : S) (ops : List Op) (i : Nat) :
    (sys.run s ops).2[i]? = (ops[i]?).map fun op => (sys.step s op).2 := by
  rw [history_independent sys h]; simp

/-- what came before an operation is irrelevant -/
theorem prefix_irrelevant (sys : Sys S Op Out) (h : ReadOnly sys) (s : S) (before₁ before₂ : List Op) (op : Op) :
    (sys.run s (before₁ ++ [op])).2.getLast? = (sys.run s (before₂ ++ [op])).2.getLast? := by
  rw [history_independent sys h, history_independent sys h]; simp

/-- the same operation twice — with anything in between — gives the same output twice -/
theorem twice_identical (sys : Sys S Op Out) (h : ReadOnly sys) (s : S) (between : List Op) (op : Op) :
    (sys.run s (op :: between ++ [op])).2.head? = (sys.run s (op :: between ++ [op])).2.getLast? := by
  rw [history_independent sys h]
  rw [List.map_append, List.getLast?_append]
  simp

/-- the converse direction, for the record: a system that is not read-only for some reachable state
    need not be history independent (a counter) — the hypothesis is not decoration -/
def counter : Sys Nat Unit Nat := ⟨fun n _ => (n + 1, n)⟩
theorem counter_depends : (counter.run 0 [(), ()]).2 ≠ [(), ()].map fun op => (counter.step 0 op).2 := by decide

/-! ### the graph -/
theorem graph_readOnly : ReadOnly graphSys := fun _ _ => rfl

/-- **C15 for the modelled operations**: nodes, references, namespaces and models are what they were -/
theorem graph_unchanged (g : Graph) (ops : List GOp) : (graphSys.run g ops).1 = g :=
  run_state graphSys graph_readOnly g ops

theorem graph_history_independent (g : Graph) (ops : List GOp) :
    (graphSys.run g ops).2 = ops.map (out g) :=
  history_independent graphSys graph_readOnly g ops

/-- writing the same namespace twice with fixed time stamps gives identical documents, whatever was
    done in between — including a write with a new model version or without outgoing references -/
theorem write_twice_identical (g : Graph) (between : List GOp) (uri : Str) (incl : Bool) (v : Option Str) (lm pd : Str) :
    (graphSys.run g (.write uri incl v lm pd :: between ++ [.write uri incl v lm pd])).2.head? =
    (graphSys.run g (.write uri incl v lm pd :: between ++ [.write uri incl v lm pd])).2.getLast? :=
  twice_identical graphSys graph_readOnly g between _

/-- a new model version shows in that document only: the version text of the header is the argument,
    everything else is the document written without it -/
theorem new_version_local (g : Graph) (uri : Str) (incl : Bool) (v : Str) (d : WDoc)
    (h : writeDoc g uri incl = .ok d) :
    writeDocV g uri incl (some v) = .ok { d with version := v } ∧ writeDocV g uri incl none = .ok d := by
  simp [writeDocV, h]

end Opcua.C15
