import OpcuaModel.Props.C19
/-! # C20 — concurrent parses do not interfere with each other -/
namespace Opcua.C20
open Opcua.Proto

variable {P : Type} [DecidableEq P]

/-- what a parser can observe of the file system: its input and its side file -/
def Agree (fs fs' : FS P) (p : Proc P) : Prop := fs p.xml = fs' p.xml ∧ fs p.side = fs' p.side

/-- the file names of two parsers do not collide: nobody's side file is the other's side file or input -/
def Disjoint (a b : Proc P) : Prop := a.side ≠ b.side ∧ a.side ≠ b.xml ∧ b.side ≠ a.xml

/-- a parser writes to its own side-file path only -/
theorem step_frame (S : Sem) (f : Bool) (fs : FS P) (p : Proc P) (k : P) (hk : k ≠ p.side) :
    (step S f fs p).1 k = fs k := by
  obtain ⟨w, pc', e, _⟩ := C19.step_shape S f fs fs p rfl rfl
  rw [e]
  exact C19.put_other fs p.side w hk

/-- … and what it does depends only on its own two files -/
theorem step_local (S : Sem) (f : Bool) (fs fs' : FS P) (p : Proc P)
    (h1 : fs p.xml = fs' p.xml) (h2 : fs p.side = fs' p.side) :
    (step S f fs p).2 = (step S f fs' p).2 ∧ (step S f fs p).1 p.side = (step S f fs' p).1 p.side := by
  obtain ⟨w, pc', e, e', _⟩ := C19.step_shape S f fs fs' p h1 h2
  rw [e, e']
  exact ⟨rfl, by simp only [C19.put_same, h2]⟩

/-- fault-free run of one parser, as plain iteration -/
def iter (S : Sem) : Nat → FS P × Proc P → FS P × Proc P
  | 0, s => s
  | n+1, s => iter S n (step S false s.1 s.2)

theorem runF_none (S : Sem) (n i : Nat) (s : FS P × Proc P) : runF S (oneFault none) n i s = iter S n s := by
  induction n generalizing i s with
  | zero => rfl
  | succ n ih => exact ih (i+1) _

theorem solo_eq_iter (S : Sem) (n : Nat) (s : FS P × Proc P) : solo S n s = iter S n s := runF_none S n 0 s

/-- one scheduled operation -/
def next (S : Sem) (i : Nat) (st : FS P × (Nat → Proc P)) : FS P × (Nat → Proc P) :=
  ((step S false st.1 (st.2 i)).1, fun j => if j = i then (step S false st.1 (st.2 i)).2 else st.2 j)

theorem runN_cons (S : Sem) (i : Nat) (r : List Nat) (st : FS P × (Nat → Proc P)) :
    runN S (i :: r) st = runN S r (next S i st) := rfl

theorem next_self (S : Sem) (i : Nat) (st : FS P × (Nat → Proc P)) :
    (next S i st).2 i = (step S false st.1 (st.2 i)).2 := if_pos rfl

theorem next_other (S : Sem) (i : Nat) (st : FS P × (Nat → Proc P)) {j : Nat} (h : j ≠ i) :
    (next S i st).2 j = st.2 j := if_neg h

theorem next_names (S : Sem) (i : Nat) (st : FS P × (Nat → Proc P)) (j : Nat) :
    ((next S i st).2 j).xml = (st.2 j).xml ∧ ((next S i st).2 j).side = (st.2 j).side := by
  by_cases h : j = i
  · rw [h, next_self]; exact C19.step_xml_side S false st.1 (st.2 i)
  · rw [next_other S i st h]; exact ⟨rfl, rfl⟩

/-- parser `i` under a schedule, against its lone run in a file system that looks the same to it; all it asks of the
    others is that their side files are not one of its two files -/
theorem runN_agree (S : Sem) (sched : List Nat) (fs fs' : FS P) (ps : Nat → Proc P) (i : Nat)
    (hw : (ps i).xml ≠ (ps i).side) (hd : ∀ j, j ≠ i → (ps i).xml ≠ (ps j).side ∧ (ps i).side ≠ (ps j).side)
    (h : Agree fs fs' (ps i)) :
    (runN S sched (fs, ps)).2 i = (iter S (sched.count i) (fs', ps i)).2 ∧
    Agree (runN S sched (fs, ps)).1 (iter S (sched.count i) (fs', ps i)).1 (ps i) := by
  induction sched generalizing fs fs' ps with
  | nil => exact ⟨rfl, h⟩
  | cons j r ih =>
    rw [runN_cons]
    -- the hypotheses speak of file names only, and these are the same after the operation
    have hn := next_names S j (fs, ps)
    have ih := fun fs'' => ih (next S j (fs, ps)).1 fs'' (next S j (fs, ps)).2
      (by rw [(hn i).1, (hn i).2]; exact hw)
      (fun k hk => by rw [(hn i).1, (hn i).2, (hn k).2]; exact hd k hk)
    unfold Agree at ih ⊢
    rw [(hn i).1, (hn i).2] at ih
    by_cases hj : j = i
    · -- parser `i` moves: both sides make the same step
      subst hj
      obtain ⟨e, hs⟩ := step_local S false fs fs' (ps j) h.1 h.2
      have := ih (step S false fs' (ps j)).1
        ⟨(step_frame S false fs (ps j) _ hw).trans (h.1.trans (step_frame S false fs' (ps j) _ hw).symm), hs⟩
      rw [next_self, e] at this
      rw [List.count_cons_self, iter]
      exact this
    · -- another parser moves: it does not write to the files of `i`
      obtain ⟨d1, d2⟩ := hd j hj
      have := ih fs' ⟨(step_frame S false fs (ps j) _ d1).trans h.1, (step_frame S false fs (ps j) _ d2).trans h.2⟩
      rw [next_other S j (fs, ps) (Ne.symm hj)] at this
      rw [List.count_cons_of_ne hj]
      exact this

/-- **independence on disjoint files, any number of parsers, every schedule**: parser `i` goes
    through exactly the states it goes through alone, and sees exactly the files it sees alone -/
theorem runN_independent (S : Sem) (sched : List Nat) (fs : FS P) (ps : Nat → Proc P) (i : Nat)
    (hw : (ps i).xml ≠ (ps i).side) (hd : ∀ j, j ≠ i → Disjoint (ps i) (ps j)) :
    (runN S sched (fs, ps)).2 i = (iter S (sched.count i) (fs, ps i)).2 ∧
    Agree (runN S sched (fs, ps)).1 (iter S (sched.count i) (fs, ps i)).1 (ps i) :=
  runN_agree S sched fs fs ps i hw (fun j hj => ⟨(hd j hj).2.2.symm, (hd j hj).1⟩) ⟨rfl, rfl⟩

/-- files nobody uses as a side file are never written, under any schedule -/
theorem runN_frame (S : Sem) (sched : List Nat) (fs : FS P) (ps : Nat → Proc P) (q : P)
    (hq : ∀ j, q ≠ (ps j).side) : (runN S sched (fs, ps)).1 q = fs q := by
  induction sched generalizing fs ps with
  | nil => rfl
  | cons j r ih =>
    rw [runN_cons]
    exact (ih (next S j (fs, ps)).1 (next S j (fs, ps)).2 fun k => by
      rw [(next_names S j (fs, ps) k).2]; exact hq k).trans
      (step_frame S false fs (ps j) q (hq j))

theorem iter_done (S : Sem) (n : Nat) (hn : 9 ≤ n) (fs : FS P) (x s : P) (pid : Nat) (hxs : x ≠ s) (hs : fs s = none) :
    (iter S n (fs, start x s pid)).2.pc = .done (loneFile S (fs x)) ∧
    ∀ q, (iter S n (fs, start x s pid)).1 q = fs q := by
  rw [← runF_none S n 0]
  exact C19.lone_done S n hn fs x s pid hxs hs

/-- **C20 on different files**: parsers started on pairwise non-colliding files of a directory that
    holds none of their side files; under every schedule that lets parser `i` finish, it returns
    exactly what a lone call returns for its file, and its two files end as they began -/
theorem concurrent_result (S : Sem) (sched : List Nat) (fs : FS P) (ps : Nat → Proc P) (i : Nat)
    (hstart : (ps i).pc = .start)
    (hw : (ps i).xml ≠ (ps i).side) (hd : ∀ j, j ≠ i → Disjoint (ps i) (ps j))
    (hs : fs (ps i).side = none) (hn : 9 ≤ sched.count i) :
    ((runN S sched (fs, ps)).2 i).pc = .done (loneFile S (fs (ps i).xml)) ∧
    (runN S sched (fs, ps)).1 (ps i).xml = fs (ps i).xml ∧
    (runN S sched (fs, ps)).1 (ps i).side = none := by
  obtain ⟨h1, h2, h3⟩ := runN_independent S sched fs ps i hw hd
  have hp : ps i = start (ps i).xml (ps i).side (ps i).pid := by rw [start, ← hstart]
  obtain ⟨d1, d2⟩ := iter_done S (sched.count i) hn fs (ps i).xml (ps i).side (ps i).pid hw hs
  rw [← hp] at d1 d2
  exact ⟨by rw [h1, d1], by rw [h2, d2], by rw [h3, d2, hs]⟩

/-- the real naming, `side x = x ++ "_parsed.json"`: parsers of distinct inputs collide only when one
    input is named like the other's side file -/
theorem disjoint_of_names (a b : Proc (List Char)) (sfx : List Char)
    (ha : a.side = a.xml ++ sfx) (hb : b.side = b.xml ++ sfx) (hne : a.xml ≠ b.xml)
    (h1 : b.xml ≠ a.xml ++ sfx) (h2 : a.xml ≠ b.xml ++ sfx) : Disjoint a b := by
  refine ⟨?_, ?_, ?_⟩
  · rw [ha, hb]; exact fun e => hne (List.append_cancel_right e)
  · rw [ha]; exact fun e => h1 e.symm
  · rw [hb]; exact fun e => h2 e.symm

/-! ### the very same file: schedules on which it fails (finding D-C20a) -/
def fs1 : FS Nat := fun p => if p = 0 then some (.doc 5) else none
def two : Nat → Proc Nat := fun i => start 0 1 i

/-- B sees the side file A completed and opens it after A removed it: FileNotFoundError -/
theorem same_file_missing :
    ((runN C19.S0 [0, 0, 0, 0, 0, 1, 0, 0, 1, 1] (fs1, two)).2 1).pc matches .done (.err .io) := by decide

/-- B reads the side file A has created but not yet written: a result that is not the lone result -/
theorem same_file_half :
    ((runN C19.S0 [0, 0, 0, 0, 1, 1, 1, 1, 1] (fs1, two)).2 1).pc matches .done (.ok 5000) ∧
    lone C19.S0 5 = .ok 5105 := by decide

/-- B removes the file A created; A's write goes to the removed file object and A cannot open it -/
theorem same_file_orphan :
    ((runN C19.S0 [0, 0, 0, 0, 1, 1, 1, 0, 0, 0] (fs1, two)).2 0).pc matches .done (.err .io) := by decide

/-- run one after the other they both return the lone result (no interference without overlap) -/
theorem same_file_sequential :
    ((runN C19.S0 (List.replicate 9 0 ++ List.replicate 9 1) (fs1, two)).2 0).pc matches .done (.ok 5105) ∧
    ((runN C19.S0 (List.replicate 9 0 ++ List.replicate 9 1) (fs1, two)).2 1).pc matches .done (.ok 5105) := by decide

/-- overlapping, but harmless: both find no side file, A creates, writes, reads and removes its side
    file while B is still decoding the document, then B does the same — both return the lone result -/
theorem same_file_overlap_ok :
    ((runN C19.S0 [0, 1, 0, 0, 0, 1, 1, 0, 0, 0, 0, 0, 1, 1, 1, 1, 1, 1, 1] (fs1, two)).2 0).pc matches .done (.ok 5105) ∧
    ((runN C19.S0 [0, 1, 0, 0, 0, 1, 1, 0, 0, 0, 0, 0, 1, 1, 1, 1, 1, 1, 1] (fs1, two)).2 1).pc matches .done (.ok 5105) := by decide

/-! ### parses of the very same file that do not overlap: the general statements -/

def setProc (ps : Nat → Proc P) (i : Nat) (p : Proc P) : Nat → Proc P := fun j => if j = i then p else ps j

omit [DecidableEq P] in
theorem setProc_self (ps : Nat → Proc P) (i : Nat) (p : Proc P) : setProc ps i p i = p := if_pos rfl

omit [DecidableEq P] in
theorem setProc_other (ps : Nat → Proc P) (i : Nat) (p : Proc P) {j : Nat} (h : j ≠ i) :
    setProc ps i p j = ps j := if_neg h

/-- a block of operations of one parser is its lone run -/
theorem runN_replicate (S : Sem) (n i : Nat) (fs : FS P) (ps : Nat → Proc P) :
    runN S (List.replicate n i) (fs, ps) = ((iter S n (fs, ps i)).1, setProc ps i (iter S n (fs, ps i)).2) := by
  induction n generalizing fs ps with
  | zero =>
    refine Prod.ext rfl (funext fun j => ?_)
    show ps j = setProc ps i (ps i) j
    by_cases h : j = i
    · rw [h, setProc_self]
    · rw [setProc_other _ _ _ h]
  | succ n ih =>
    rw [List.replicate_succ, runN_cons, ih, next_self]
    refine Prod.ext rfl (funext fun j => ?_)
    show setProc (next S i (fs, ps)).2 i _ j = setProc ps i _ j
    by_cases h : j = i
    · rw [h, setProc_self, setProc_self]; rfl
    · rw [setProc_other _ _ _ h, setProc_other _ _ _ h]; exact next_other S i (fs, ps) h

theorem runN_append (S : Sem) (a b : List Nat) (s : FS P × (Nat → Proc P)) :
    runN S (a ++ b) s = runN S b (runN S a s) := by
  induction a generalizing s with
  | nil => rfl
  | cons i r ih => rw [List.cons_append, runN_cons, runN_cons, ih]

/-- **calls on the very same file that do not overlap in time**: any number of parses of one file,
    each given its (at least nine) operations in one block, one block after the other in any order —
    every one of them returns what a lone call returns, and the directory ends as it began. For every
    content semantics and every document (the general form of the witness `same_file_sequential`). -/
theorem same_file_blocks (S : Sem) (n : Nat) (hn : 9 ≤ n) (x s : P) (hxs : x ≠ s)
    (order : List Nat) (hnd : order.Nodup) (fs : FS P) (hs : fs s = none) (ps : Nat → Proc P)
    (hps : ∀ i ∈ order, ps i = start x s i) :
    (∀ i ∈ order, ((runN S (order.flatMap fun i => List.replicate n i) (fs, ps)).2 i).pc = .done (loneFile S (fs x))) ∧
    (runN S (order.flatMap fun i => List.replicate n i) (fs, ps)).1 = fs ∧
    (∀ j, j ∉ order → (runN S (order.flatMap fun i => List.replicate n i) (fs, ps)).2 j = ps j) := by
  induction order generalizing ps with
  | nil => exact ⟨nofun, rfl, fun _ _ => rfl⟩
  | cons i r ih =>
    obtain ⟨hir, hnd'⟩ := List.nodup_cons.1 hnd
    obtain ⟨hpi, hpr⟩ := List.forall_mem_cons.1 hps
    -- the first block is a lone run of parser `i`: it finishes and restores the directory
    obtain ⟨d1, d2⟩ := iter_done S n hn fs x s i hxs hs
    rw [← hpi] at d1 d2
    rw [List.flatMap_cons, runN_append, runN_replicate, funext d2]
    -- the other blocks leave parser `i` where it is
    obtain ⟨a, b, c⟩ := ih hnd' (setProc ps i (iter S n (fs, ps i)).2) fun j hj => by
      rw [setProc_other _ _ _ (ne_of_mem_of_not_mem hj hir)]; exact hpr j hj
    refine ⟨fun j hj => ?_, b, fun j hj => ?_⟩
    · rcases List.mem_cons.1 hj with rfl | hj
      · rw [c j hir, setProc_self]; exact d1
      · exact a j hj
    · rw [c j (fun h => hj (List.mem_cons_of_mem _ h)), setProc_other _ _ _ (List.ne_of_not_mem_cons hj)]

/-! ### window-respecting schedules: on these finding D-C20a cannot happen -/

/-- the operations between the creation of the side file and its removal -/
def Win : PC → Bool
  | .preWrite _ _ | .rdOpen | .fin _ => true
  | _ => false

/-- the operations that look at, or create, the side-file name -/
def Sens : PC → Bool
  | .start | .preCreate _ => true
  | _ => false

/-- what a parser knows about the document, at each point of the protocol -/
def Facts (S : Sem) (fx : Option File) : PC → Prop
  | .start | .preRead => True
  | .preDecode c => fx = some (.doc c) ∧ S.wf c = true
  | .preCreate h => ∃ c, fx = some (.doc c) ∧ S.wf c = true ∧ S.header c = some h
  | .preWrite h _ => ∃ c, fx = some (.doc c) ∧ S.wf c = true ∧ S.header c = some h
  | .wclean => False
  | .rdOpen => ∃ c h, fx = some (.doc c) ∧ S.wf c = true ∧ S.header c = some h
  | .fin (.ok l) => ∃ c h, fx = some (.doc c) ∧ S.wf c = true ∧ S.header c = some h ∧ l = .hdr (some h)
  | .fin (.error _) => False
  | .decode l => ∃ c h, fx = some (.doc c) ∧ S.wf c = true ∧ S.header c = some h ∧ l = .hdr (some h)
  | .body ho => ∃ c h, fx = some (.doc c) ∧ S.wf c = true ∧ S.header c = some h ∧ ho = some h
  | .done r => r = loneFile S fx

/-- what the side file holds while the parser at `pc` is between its creation and its removal -/
def OwnerFact (S : Sem) (fx : Option File) (sf : Option File) : PC → Prop
  | .preWrite _ g => sf = some (.side g none)
  | .rdOpen => ∃ g c h, fx = some (.doc c) ∧ S.header c = some h ∧ sf = some (.side g (some h))
  | _ => True

/-- the invariant of any number of parsers of one input `x` with side file `s`, started on the file system `fs0`:
    nothing but `s` is written (`frame`); every parser knows what `Facts` says (`procs`); and either nobody is between
    creating and removing the side file and it does not exist, or exactly one parser is, and the file is as its
    `OwnerFact` says (`own`) -/
structure MInv (S : Sem) (fs0 : FS P) (x s : P) (st : FS P × (Nat → Proc P)) : Prop where
  frame : ∀ q, q ≠ s → st.1 q = fs0 q
  procs : ∀ i, (st.2 i).xml = x ∧ (st.2 i).side = s ∧ Facts S (fs0 x) (st.2 i).pc
  own : (st.1 s = none ∧ ∀ j, Win (st.2 j).pc = false) ∨
        ∃ i, Win (st.2 i).pc = true ∧ (∀ j, j ≠ i → Win (st.2 j).pc = false) ∧ OwnerFact S (fs0 x) (st.1 s) (st.2 i).pc

/-- a schedule is *window-respecting* when no parser checks for, or creates, the side file while
    another one is between its own creation and removal of it -/
def Safe (S : Sem) : List Nat → FS P × (Nat → Proc P) → Prop
  | [], _ => True
  | i :: r, st => (Sens (st.2 i).pc = true → ∀ j, Win (st.2 j).pc = false) ∧ Safe S r (next S i st)

/-! For a parser whose operations do not raise, `Facts` and `OwnerFact` together are `C19.Seen`, and
    `Win` is `C19.Open` (which also covers the clean-up after a failed write). -/

theorem seen_of_facts {S : Sem} {fx sf : Option File} {pc : PC} (hf : Facts S fx pc)
    (ho : Win pc = true → OwnerFact S fx sf pc) : C19.Seen S false fx sf pc := by
  cases pc with
  | preWrite h g => exact ⟨hf, ho rfl⟩
  | rdOpen => exact ⟨hf, ho rfl⟩
  | wclean => exact hf.elim
  | fin r =>
    cases r with
    | error e => exact hf.elim
    | ok l => exact hf
  | done r => exact Or.inl hf
  | _ => exact hf

theorem facts_of_seen {S : Sem} {fx sf : Option File} {pc : PC} (h : C19.Seen S false fx sf pc) :
    Facts S fx pc ∧ OwnerFact S fx sf pc ∧ Win pc = C19.Open pc := by
  cases pc with
  | preWrite h' g => exact ⟨h.1, h.2, rfl⟩
  | rdOpen => exact ⟨h.1, h.2, rfl⟩
  | wclean => cases h
  | fin r =>
    cases r with
    | error e => cases h.1
    | ok l => exact ⟨h, trivial, rfl⟩
  | done r => exact ⟨h.resolve_right (fun h' => Bool.noConfusion h'.1), trivial, rfl⟩
  | _ => exact ⟨h, trivial, rfl⟩

section
omit [DecidableEq P]

theorem MInv.free {S : Sem} {fs0 : FS P} {x s : P} {st : FS P × (Nat → Proc P)} (h : MInv S fs0 x s st)
    (hno : ∀ j, Win (st.2 j).pc = false) : st.1 s = none := by
  rcases h.own with ⟨h, _⟩ | ⟨k, hk, _, _⟩
  · exact h
  · rw [hno k] at hk; cases hk

theorem MInv.owner {S : Sem} {fs0 : FS P} {x s : P} {st : FS P × (Nat → Proc P)} (h : MInv S fs0 x s st)
    {i : Nat} (hi : Win (st.2 i).pc = true) :
    (∀ j, j ≠ i → Win (st.2 j).pc = false) ∧ OwnerFact S (fs0 x) (st.1 s) (st.2 i).pc := by
  rcases h.own with ⟨_, hall⟩ | ⟨k, hk, hrest, hof⟩
  · rw [hall i] at hi; cases hi
  · by_cases hki : i = k
    · rw [hki]; exact ⟨hrest, hof⟩
    · rw [hrest i hki] at hi; cases hi

/-- The invariant after parser `i` alone has moved: if it is inside its window now, nobody else is
    and the side file is as its `OwnerFact` says; if it is not, it has removed the file in case it
    was inside before, and left the path alone otherwise. -/
theorem minv_move {S : Sem} {fs0 : FS P} {x s : P} {st st' : FS P × (Nat → Proc P)} (h : MInv S fs0 x s st)
    (i : Nat) (hoth : ∀ j, j ≠ i → st'.2 j = st.2 j) (hfr : ∀ q, q ≠ s → st'.1 q = st.1 q)
    (hp : (st'.2 i).xml = x ∧ (st'.2 i).side = s ∧ Facts S (fs0 x) (st'.2 i).pc)
    (hin : Win (st'.2 i).pc = true →
      (∀ j, j ≠ i → Win (st.2 j).pc = false) ∧ OwnerFact S (fs0 x) (st'.1 s) (st'.2 i).pc)
    (hout : Win (st'.2 i).pc = false → st'.1 s = if Win (st.2 i).pc then none else st.1 s) :
    MInv S fs0 x s st' := by
  refine ⟨fun q hq => (hfr q hq).trans (h.frame q hq), fun j => ?_, ?_⟩
  · by_cases hj : j = i
    · rw [hj]; exact hp
    · rw [hoth j hj]; exact h.procs j
  · cases hw' : Win (st'.2 i).pc with
    | true =>
      obtain ⟨hrest, hof⟩ := hin hw'
      exact Or.inr ⟨i, hw', fun j hj => by rw [hoth j hj]; exact hrest j hj, hof⟩
    | false =>
      have hs' := hout hw'
      cases hw : Win (st.2 i).pc with
      | true =>
        -- it was the owner and has left: nobody is inside, the file is gone
        rw [hw, if_pos rfl] at hs'
        refine Or.inl ⟨hs', fun j => ?_⟩
        by_cases hj : j = i
        · rw [hj]; exact hw'
        · rw [hoth j hj]; exact (h.owner hw).1 j hj
      | false =>
        -- it was and stays outside and has not written: who is inside, and the file, are as before
        rw [hw, if_neg Bool.false_ne_true] at hs'
        have hsame : ∀ j, Win (st'.2 j).pc = Win (st.2 j).pc := fun j => by
          by_cases hj : j = i
          · rw [hj, hw, hw']
          · rw [hoth j hj]
        rcases h.own with ⟨ha, hall⟩ | ⟨k, hk, hrest, hof⟩
        · exact Or.inl ⟨hs'.trans ha, fun j => (hsame j).trans (hall j)⟩
        · have hki : k ≠ i := fun e => by rw [e, hw] at hk; cases hk
          refine Or.inr ⟨k, (hsame k).trans hk, fun j hj => (hsame j).trans (hrest j hj), ?_⟩
          rw [hoth k hki, hs']; exact hof

theorem minv_init (S : Sem) (fs : FS P) (x s : P) (hs : fs s = none) (ps : Nat → Proc P)
    (hps : ∀ i, ps i = start x s i) : MInv S fs x s (fs, ps) := by
  refine ⟨fun _ _ => rfl, fun i => ?_, Or.inl ⟨hs, fun j => ?_⟩⟩
  · show (ps i).xml = x ∧ (ps i).side = s ∧ Facts S (fs x) (ps i).pc
    rw [hps i]; exact ⟨rfl, rfl, trivial⟩
  · show Win (ps j).pc = false
    rw [hps j]; rfl

end

theorem minv_next (S : Sem) (fs0 : FS P) (x s : P) (hxs : x ≠ s) (st : FS P × (Nat → Proc P)) (i : Nat)
    (h : MInv S fs0 x s st) (hsafe : Sens (st.2 i).pc = true → ∀ j, Win (st.2 j).pc = false) :
    MInv S fs0 x s (next S i st) := by
  obtain ⟨hx, hs, hfacts⟩ := h.procs i
  -- parser `i` finds the side-file path as it left it: free when it checks or creates (the schedule
  -- is safe there), and holding its own file while it is inside its window
  have hseen : C19.Seen S false (st.1 (st.2 i).xml) (st.1 (st.2 i).side) (st.2 i).pc := by
    rw [hx, hs, h.frame x hxs]
    exact seen_of_facts hfacts fun hw => (h.owner hw).2
  have h0 : ((st.2 i).pc = .start ∨ ∃ h, (st.2 i).pc = .preCreate h) → st.1 (st.2 i).side = none := by
    intro e
    rw [hs]
    exact h.free (hsafe (by rcases e with e | ⟨_, e⟩ <;> rw [e] <;> rfl))
  obtain ⟨h1, h2, h3⟩ := C19.seen_step S false false nofun st.1 (st.2 i) hseen h0
  obtain ⟨x1, x2⟩ := C19.step_xml_side S false st.1 (st.2 i)
  rw [hx, hs, h.frame x hxs] at h1
  rw [hs] at h3
  obtain ⟨hf', ho', hw'⟩ := facts_of_seen h1
  rw [← hw', ← (facts_of_seen hseen).2.2] at h2 h3
  refine minv_move h i (fun j hj => next_other S i st hj)
    (fun q hq => step_frame S false st.1 (st.2 i) q (by rw [hs]; exact hq)) ?_ ?_ ?_
  · rw [next_self]; exact ⟨x1.trans hx, x2.trans hs, hf'⟩
  · rw [next_self]
    refine fun hin => ⟨?_, ho'⟩
    -- it is inside now: it was before, or has just created the file
    rcases h2 hin with hw | ⟨_, e⟩
    · exact (h.owner hw).1
    · exact fun j _ => hsafe (by rw [e]; rfl) j
  · rw [next_self]; exact h3

theorem minv_run {S : Sem} {fs0 : FS P} {x s : P} (hxs : x ≠ s) {sched : List Nat} {st : FS P × (Nat → Proc P)}
    (h : MInv S fs0 x s st) (hsafe : Safe S sched st) : MInv S fs0 x s (runN S sched st) := by
  induction sched generalizing st with
  | nil => exact h
  | cons i r ih =>
    rw [runN_cons]
    exact ih (minv_next S fs0 x s hxs st i h hsafe.1) hsafe.2

theorem rank_runN (S : Sem) (sched : List Nat) (st : FS P × (Nat → Proc P)) (i : Nat) :
    C19.rank ((runN S sched st).2 i).pc ≤ C19.rank (st.2 i).pc - sched.count i := by
  induction sched generalizing st with
  | nil => exact Nat.le_refl _
  | cons j r ih =>
    rw [runN_cons]
    refine Nat.le_trans (ih (next S j st)) ?_
    by_cases hj : j = i
    · rw [hj, next_self, List.count_cons_self, Nat.add_comm _ 1, ← Nat.sub_sub]
      exact Nat.sub_le_sub_right (C19.rank_step S false st.1 (st.2 i)) _
    · rw [next_other S j st (Ne.symm hj), List.count_cons_of_ne hj]
      exact Nat.le_refl _

/-- **parses of the very same file under every window-respecting schedule** (the complement of finding
    D-C20a): any number of parsers of one file, started on a directory without the side file, under
    any schedule in which no parser checks for or creates the side file while another one is between
    its own creation and removal of it. Every parser that was given its nine operations has finished
    with exactly the lone result; nobody ever fails for a reason a lone call would not have; no file
    other than the side file is touched; and once nobody is inside its window the side file is gone.
    For every content semantics, every document, every number of parsers. -/
theorem same_file_window_respecting (S : Sem) (x s : P) (hxs : x ≠ s) (fs : FS P) (hs : fs s = none)
    (ps : Nat → Proc P) (hps : ∀ i, ps i = start x s i) (sched : List Nat) (hsafe : Safe S sched (fs, ps)) :
    (∀ i, 9 ≤ sched.count i → ((runN S sched (fs, ps)).2 i).pc = .done (loneFile S (fs x))) ∧
    (∀ i r, ((runN S sched (fs, ps)).2 i).pc = .done r → r = loneFile S (fs x)) ∧
    (∀ q, q ≠ s → (runN S sched (fs, ps)).1 q = fs q) ∧
    ((∀ j, Win ((runN S sched (fs, ps)).2 j).pc = false) → (runN S sched (fs, ps)).1 s = none) := by
  have hm := minv_run hxs (minv_init S fs x s hs ps hps) hsafe
  have hdone : ∀ i r, ((runN S sched (fs, ps)).2 i).pc = .done r → r = loneFile S (fs x) := by
    intro i r hr
    have := (hm.procs i).2.2
    rw [hr] at this
    exact this
  refine ⟨fun i hc => ?_, hdone, hm.frame, hm.free⟩
  have h9 : C19.rank (ps i).pc ≤ sched.count i := by rw [hps i]; exact hc
  obtain ⟨r, hr'⟩ := C19.done_of_rank (rank_runN S sched (fs, ps) i) h9
  rw [hr', hdone i r hr']

/-! non-vacuity: the overlapping witness schedule is window-respecting (checked for the two scheduled
    parsers by evaluation; the parsers that are never scheduled stay at their first operation) -/
def safeB (S : Sem) : List Nat → FS P × (Nat → Proc P) → Bool
  | [], _ => true
  | i :: r, st => (!Sens (st.2 i).pc || (!Win (st.2 0).pc && !Win (st.2 1).pc)) && safeB S r (next S i st)

theorem safe_of_safeB (S : Sem) (sched : List Nat) (st : FS P × (Nat → Proc P)) (hs : ∀ i ∈ sched, i < 2)
    (hrest : ∀ j, 2 ≤ j → Win (st.2 j).pc = false) (hb : safeB S sched st = true) : Safe S sched st := by
  induction sched generalizing st with
  | nil => trivial
  | cons i r ih =>
    simp only [safeB, Bool.and_eq_true, Bool.or_eq_true, Bool.not_eq_true'] at hb
    obtain ⟨hi, hr⟩ := List.forall_mem_cons.1 hs
    refine ⟨fun hsens j => ?_, ih _ hr (fun j hj => ?_) hb.2⟩
    · rcases hb.1 with h | h
      · rw [h] at hsens; cases hsens
      · match j with
        | 0 => exact h.1
        | 1 => exact h.2
        | j+2 => exact hrest _ (Nat.le_add_left 2 j)
    · rw [next_other S i st (by omega)]
      exact hrest j hj

example : Safe C19.S0 [0, 1, 0, 0, 0, 1, 1, 0, 0, 0, 0, 0, 1, 1, 1, 1, 1, 1, 1] (fs1, two) :=
  safe_of_safeB _ _ _ (by decide) (fun _ _ => rfl) (by decide)

/-- … whereas the schedule of finding D-C20a is not: B checks for the side file while A is inside its window -/
example : safeB C19.S0 [0, 0, 0, 0, 0, 1] (fs1, two) = false := by decide

/-! ### the process-wide NodeId cache is transparent -/
def CacheOk {K V : Type} (f : K → V) (cache : List (K × V)) : Prop := ∀ e ∈ cache, e.2 = f e.1

theorem cacheGet_value {K V : Type} [DecidableEq K] (f : K → V) (cache : List (K × V)) (k : K)
    (h : CacheOk f cache) : (cacheGet f cache k).2 = f k ∧ CacheOk f (cacheGet f cache k).1 := by
  unfold cacheGet
  cases hl : cache.lookup k with
  | none =>
    refine ⟨rfl, fun e he => ?_⟩
    rcases List.mem_cons.1 he with rfl | he
    · rfl
    · exact h e he
  | some v =>
    obtain ⟨l₁, l₂, rfl, _⟩ := List.lookup_eq_some_iff.1 hl
    exact ⟨h (k, v) (List.mem_append_right _ (List.mem_cons_self ..)), h⟩

/-- **any interleaving of look-ups by any number of callers**: whatever calls came before, from
    whichever thread, every call returns the value of the pure function -/
theorem cache_transparent {K V : Type} [DecidableEq K] (f : K → V) (calls : List K) (cache : List (K × V))
    (h : CacheOk f cache) :
    (calls.foldl (fun (st : List (K × V) × List V) k =>
        let r := cacheGet f st.1 k; (r.1, st.2 ++ [r.2])) (cache, [])).2 = calls.map f := by
  suffices ∀ (acc : List V), (calls.foldl (fun (st : List (K × V) × List V) k =>
        let r := cacheGet f st.1 k; (r.1, st.2 ++ [r.2])) (cache, acc)).2 = acc ++ calls.map f by
    simpa using this []
  induction calls generalizing cache with
  | nil => intro acc; simp
  | cons k r ih =>
    intro acc
    obtain ⟨hv, hc⟩ := cacheGet_value f cache k h
    simp only [List.foldl_cons, List.map_cons]
    rw [ih _ hc, hv]
    simp

end Opcua.C20
