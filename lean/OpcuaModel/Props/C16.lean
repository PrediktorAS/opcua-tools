import OpcuaModel.Model.Validate
/-! # C16 — value/DataType validation on write rejects exactly the mismatching variables. -/
namespace Opcua.C16
open Opcua

/-- the variables the error must name -/
def offenders (rows : List VRow) (dtName : Nat → Option Str) : List VRow := (checkedRows rows).filter (offending dtName)

/-- the validator's own list `bad` (two filters) is `offenders` -/
theorem offenders_eq (rows : List VRow) (dtName : Nat → Option Str) :
    ((checkedRows rows).filter (potentially dtName)).filter
        (fun r => !decide (classOf r = expectedOf dtName r) && !decide (classOf r = kUAEnumeration)) =
      offenders rows dtName := by
  unfold offenders offending
  rw [List.filter_filter]
  congr 1
  funext r
  cases potentially dtName r <;> simp

/-- the three outcomes of the validator: a checked variable without DataType, no offender, or the
    offenders named -/
theorem validateValues_eq (rows : List VRow) (dtName : Nat → Option Str) :
    validateValues rows dtName =
      if (checkedRows rows).any (fun r => r.dataType.isNone) then .error .noDataType
      else if offenders rows dtName = [] then .ok ()
      else .error (.invalid ((offenders rows dtName).map (·.display))) := by
  unfold validateValues
  simp only [offenders_eq]
  split
  · next h1 => simp [h1, offenders]
  · refine ite_congr rfl (fun _ => rfl) fun _ => ?_
    split
    · next h3 =>
      -- the shortcut of the code: where every row that is not skipped is valid, none offends
      have hno : offenders rows dtName = [] := by
        rw [← offenders_eq, List.filter_eq_nil_iff]
        intro r hr
        simp [of_decide_eq_true (List.all_eq_true.1 h3 r hr)]
      rw [if_pos hno]
    · rfl

/-- **the decision, exactly**: with every checked variable declaring a DataType, the write is accepted
    when there is no offending variable and is rejected with the value-mismatch error naming exactly
    the offending variables (in table order) when there is one -/
theorem decision (rows : List VRow) (dtName : Nat → Option Str)
    (hd : ∀ r ∈ checkedRows rows, r.dataType.isNone = false) :
    validateValues rows dtName =
      if offenders rows dtName = [] then .ok () else .error (.invalid ((offenders rows dtName).map (·.display))) := by
  have h2 : (checkedRows rows).any (fun r => r.dataType.isNone) = false :=
    List.any_eq_false.2 fun r hr => by simp [hd r hr]
  rw [validateValues_eq, h2, if_neg Bool.false_ne_true]

/-- **names_exact**: whenever the validator rejects for a value mismatch, the message names exactly
    the offending variables, in table order — and there is at least one -/
theorem names_exact (rows : List VRow) (dtName : Nat → Option Str) (names : List Str)
    (h : validateValues rows dtName = .error (.invalid names)) :
    names = (offenders rows dtName).map (·.display) ∧ offenders rows dtName ≠ [] := by
  rw [validateValues_eq] at h
  split at h
  · cases h
  · split at h
    · cases h
    · next hne =>
      cases h
      exact ⟨rfl, hne⟩

/-- **rejects**: one offending variable is enough for the write to be rejected -/
theorem offender_rejected (rows : List VRow) (dtName : Nat → Option Str)
    (hd : ∀ r ∈ checkedRows rows, r.dataType.isNone = false) (r : VRow) (hr : r ∈ offenders rows dtName) :
    validateValues rows dtName = .error (.invalid ((offenders rows dtName).map (·.display))) := by
  rw [decision rows dtName hd, if_neg (List.ne_nil_of_mem hr)]

/-- **accepts**: when no checked variable offends, the write goes ahead — whatever enumeration and
    list values are among the variables -/
theorem no_offender_accepted (rows : List VRow) (dtName : Nat → Option Str)
    (hd : ∀ r ∈ checkedRows rows, r.dataType.isNone = false) (hno : offenders rows dtName = []) :
    validateValues rows dtName = .ok () := by
  rw [decision rows dtName hd, if_pos hno]

/-- **never rejected for a value mismatch**: list values, enumeration values and variables whose
    DataType is not a built-in type are not offenders, whatever they hold -/
theorem never_offending (dtName : Nat → Option Str) (r : VRow)
    (h : classOf r = kUAListOf ∨ classOf r = kUAEnumeration ∨ builtinNames.contains (expectedOf dtName r) = false) :
    offending dtName r = false := by
  unfold offending potentially
  rcases h with h | h | h
  · simp [h]
  · simp [h]
  · rw [h]; simp

/-- **no DataType**: a variable with a value but no DataType is rejected -/
theorem missing_datatype_rejected (rows : List VRow) (dtName : Nat → Option Str)
    (h : ∃ r ∈ checkedRows rows, r.dataType = none) : validateValues rows dtName = .error .noDataType := by
  obtain ⟨r, hr, hd⟩ := h
  rw [validateValues_eq, if_pos (List.any_eq_true.2 ⟨r, hr, by simp [hd]⟩)]

/-- only variables that hold a value are looked at -/
theorem only_variables_with_values (rows : List VRow) (r : VRow) :
    r ∈ checkedRows rows ↔ r ∈ rows ∧ r.cls = kUAVariable ∧ r.valueClass.isSome = true := by
  simp [checkedRows, isChecked]

/-! ### non-vacuity -/
def dt (i : Nat) : Option Str := if i = 6 then some "Int32".toList else if i = 12 then some "String".toList else if i = 99 then some "MyEnum".toList else none
example : validateValues [⟨kUAVariable, "Bad".toList, some "UAString".toList, some 6⟩,
                          ⟨kUAVariable, "Good".toList, some "UAInt32".toList, some 6⟩,
                          ⟨kUAVariable, "L".toList, some "UAListOf".toList, some 6⟩,
                          ⟨kUAVariable, "E".toList, some "UAEnumeration".toList, some 99⟩] dt =
    .error (.invalid ["Bad".toList]) := by decide +kernel
/-- the regression of the repaired defect: an enumeration value under a built-in DataType of another
    name next to a correctly typed variable is accepted -/
example : validateValues [⟨kUAVariable, "Good".toList, some "UAInt32".toList, some 6⟩,
                          ⟨kUAVariable, "E".toList, some "UAEnumeration".toList, some 12⟩] dt = .ok () := by decide +kernel

end Opcua.C16
