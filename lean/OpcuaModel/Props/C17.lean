import OpcuaModel.Model.Enum
import OpcuaModel.Lemmas.MapE
/-! # C17 — enumeration values are attached without altering the data. -/
namespace Opcua.C17
open Opcua

/-- which rows the transformation may touch: variables whose DataType is one of the enumeration types -/
def IsEnumVar (isEnumType : Nat → Bool) (n : ENode) : Prop :=
  n.cls = kUAVar ∧ ∃ dt, n.dataType = some dt ∧ isEnumType dt = true

/-- **frame (row level)**: a row that is not an enum-typed variable is returned unchanged, and so is
    an enum-typed variable without a value -/
theorem frame_row (isEnumType : Nat → Bool) (defs : Nat → Option (Str × List (Int × Option Str))) (n : ENode)
    (h : ¬ IsEnumVar isEnumType n ∨ n.value = none) : transformNode isEnumType defs n = .ok n := by
  unfold transformNode
  cases hd : n.dataType with
  | none => rfl
  | some dt =>
    simp only
    split
    · next hc =>
      rcases h with h | h
      · exact absurd ⟨hc.1, dt, hd, hc.2⟩ h
      · simp [h]
    · rfl

/-- the only way a row changes: an enum-typed variable whose value is replaced by what
    `toEnumValue` makes of it -/
theorem transformNode_ok {isEnumType : Nat → Bool} {defs : Nat → Option (Str × List (Int × Option Str))}
    {n n' : ENode} (h : transformNode isEnumType defs n = .ok n') :
    n' = n ∨ ∃ dt v v', n.cls = kUAVar ∧ n.dataType = some dt ∧ isEnumType dt = true ∧
      n.value = some v ∧ toEnumValue (defs dt) v = .ok v' ∧ n' = { n with value := some v' } := by
  unfold transformNode at h
  split at h
  · exact .inl (Except.ok.inj h).symm
  · next dt hd =>
    split at h
    · next hc =>
      split at h
      · exact .inl (Except.ok.inj h).symm
      · next v hv =>
        split at h
        · cases h
        · next v' ht => exact .inr ⟨dt, v, v', hc.1, hd, hc.2, hv, ht, (Except.ok.inj h).symm⟩
    · exact .inl (Except.ok.inj h).symm

/-- **frame (column level)**: whatever happens, only the Value cell can change — id, class, name and
    DataType of every row are kept -/
theorem only_value_changes (isEnumType : Nat → Bool) (defs : Nat → Option (Str × List (Int × Option Str))) (n n' : ENode)
    (h : transformNode isEnumType defs n = .ok n') :
    n'.id = n.id ∧ n'.cls = n.cls ∧ n'.browse = n.browse ∧ n'.dataType = n.dataType := by
  rcases transformNode_ok h with rfl | ⟨_, _, _, _, _, _, _, _, rfl⟩
  · exact ⟨rfl, rfl, rfl, rfl⟩
  · exact ⟨rfl, rfl, rfl, rfl⟩

/-- **enum_attached**: an enum-typed variable holding the Int32 `i`, whose DataType defines the string
    `s` for `i`, gets the enumeration value (same integer, that string, the enumeration's name) -/
theorem enum_attached (isEnumType : Nat → Bool) (defs : Nat → Option (Str × List (Int × Option Str))) (n : ENode)
    (dt : Nat) (i : Int) (name s : Str) (dict : List (Int × Option Str))
    (hc : n.cls = kUAVar) (hd : n.dataType = some dt) (he : isEnumType dt = true)
    (hv : n.value = some (.int .int32 (some i))) (hdef : defs dt = some (name, dict)) (hs : lookup i dict = some (some s)) :
    transformNode isEnumType defs n = .ok { n with value := some (.enumeration (some i) s name) } := by
  unfold transformNode
  simp only [hd, hc, he, and_self, if_true, hv, toEnumValue, enumInt, hdef, hs]

/-- without a definition the integer is kept and the names are "Unknown" -/
theorem enum_unknown (isEnumType : Nat → Bool) (defs : Nat → Option (Str × List (Int × Option Str))) (n : ENode)
    (dt : Nat) (i : Option Int) (hc : n.cls = kUAVar) (hd : n.dataType = some dt) (he : isEnumType dt = true)
    (hv : n.value = some (.int .int32 i)) (hdef : defs dt = none) :
    transformNode isEnumType defs n = .ok { n with value := some (.enumeration i kUnknown kUnknown) } := by
  unfold transformNode
  simp only [hd, hc, he, and_self, if_true, hv, toEnumValue, enumInt, hdef]

/-- `toEnumValue` looks at its argument only through `enumInt`, and its result is an enumeration
    value carrying that same integer -/
theorem enumInt_toEnumValue {defn : Option (Str × List (Int × Option Str))} {v v' : Val}
    (h : toEnumValue defn v = .ok v') : enumInt v' = enumInt v := by
  unfold toEnumValue at h
  split at h
  · cases h
  · next oi hi =>
    rw [hi]
    split at h
    · cases h; rfl
    · split at h
      · cases h
      · split at h
        · cases h
        · cases h
        · cases h; rfl

/-- **idempotent (row level)**: transforming an already transformed row changes nothing -/
theorem idempotent_row (isEnumType : Nat → Bool) (defs : Nat → Option (Str × List (Int × Option Str))) (n n' : ENode)
    (h : transformNode isEnumType defs n = .ok n') : transformNode isEnumType defs n' = .ok n' := by
  rcases transformNode_ok h with rfl | ⟨dt, v, v', hc, hd, he, _, ht, rfl⟩
  · exact h
  · -- the second run reads the same integer from the new value, so it computes the same
    have ht' : toEnumValue (defs dt) v' = .ok v' := by
      rw [← ht]
      unfold toEnumValue
      rw [enumInt_toEnumValue ht]
    simp only [transformNode, hd, hc, he, and_self, if_true, ht']

def SameRow (n n' : ENode) : Prop := n'.id = n.id ∧ n'.cls = n.cls ∧ n'.browse = n.browse ∧ n'.dataType = n.dataType

/-- **frame / no rows added or lost (table level)**: the transformed table has one row per input
    row, in order, each obtained from its own input row; only Value cells can differ -/
theorem table_pointwise (nodes out : List ENode) (refs : List (Nat × Nat × Nat)) (hp : Option Nat)
    (h : transformEnums nodes refs hp = .ok out) : out.length = nodes.length ∧ List.Forall₂ SameRow nodes out := by
  have unchanged : nodes.length = nodes.length ∧ List.Forall₂ SameRow nodes nodes :=
    ⟨rfl, forall₂_refl (fun _ => ⟨rfl, rfl, rfl, rfl⟩) _⟩
  unfold transformEnums at h
  split at h
  · cases h
  · cases h; exact unchanged
  · simp only at h
    split at h
    · cases h; exact unchanged
    · split at h
      · cases h
      · split at h
        · cases h
        · exact ⟨mapE_ok_length h, forall₂_imp (mapE_ok_forall h) (only_value_changes _ _)⟩

/-- **xml_same_as_int32**: an enumeration value is written to XML exactly as the Int32 it came from -/
theorem xml_same_as_int32 (v : Option Int) (s name : Str) (b : Bool) :
    encodeText (.enumeration v s name) b = encodeText (.int .int32 v) b := rfl

/-- finding D-C17a as a witness: a list-valued enum variable is collapsed to its first element -/
theorem list_collapsed_witness :
    toEnumValue (some ("E".toList, [(0, some "Off".toList), (1, some "On".toList)]))
      (.list "Int32".toList (.cons (.int .int32 (some 1)) (.cons (.int .int32 (some 0)) .nil))) =
    .ok (.enumeration (some 1) "On".toList "E".toList) := by
  simp [toEnumValue, enumInt, lookup]

/-- **only the definition property counts**: a further HasProperty reference from the data type to a
    node that is named neither EnumStrings nor EnumValues does not change the definition read for it,
    whatever that node holds and wherever the reference stands -/
theorem enumDef_other_property (nodes : List ENode) (pre post : List (Nat × Nat × Nat)) (hp dt p : Nat)
    (hname : ∀ n ∈ nodes, n.id = p → n.browse ≠ kEnumStrings ∧ n.browse ≠ kEnumValues) :
    enumDef nodes (pre ++ (dt, p, hp) :: post) hp dt = enumDef nodes (pre ++ post) hp dt := by
  -- the added reference passes the filter, but the node it points to yields no value
  have hnone : (nodes.find? fun n => n.id = p).bind
      (fun n => if n.browse = kEnumStrings ∨ n.browse = kEnumValues then n.value else none) = none := by
    cases hf : nodes.find? (fun n => n.id = p) with
    | none => rfl
    | some n =>
      obtain ⟨h1, h2⟩ := hname n (List.mem_of_find?_eq_some hf) (by simpa using List.find?_some hf)
      simp [h1, h2]
  simp only [enumDef, List.filter_append, List.map_append, List.filterMap_append, List.filter_cons,
    and_self, decide_true, if_true, List.map_cons, List.filterMap_cons, hnone]

/-- **no Enumeration node, nothing to do**: on a graph that holds no node named `Enumeration` (a document
    set loaded without the base document) the transformation succeeds and returns the table unchanged —
    construction of such a graph therefore succeeds exactly when its references are closed (C11) -/
theorem no_enumeration_noop (nodes : List ENode) (refs : List (Nat × Nat × Nat)) (hp : Option Nat)
    (h : nodes.any (fun n => decide (n.browse = kEnumeration)) = false) :
    transformEnums nodes refs hp = .ok nodes := by
  unfold transformEnums enumTypeIds
  simp [h]

end Opcua.C17
