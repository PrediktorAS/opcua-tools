import OpcuaModel.Model.Value
import OpcuaModel.Lemmas.Xml
import OpcuaModel.Lemmas.Str
import OpcuaModel.Lemmas.DateTime
/-! # C08 — XML value encoding and decoding are inverse for every supported value.

Chain proved here: the text the encoders concatenate **is** the rendering of a layout tree
(`encodeText_render`), a conforming reader gets exactly the intended data tree back from that text
(`text_is_tree`, via `Xml.parseXml_render`), and the value parser maps that tree to the original
value (`tree_roundtrip`). -/
namespace Opcua.C08
open Opcua Opcua.Xml

/-! ### text tokens that need no escaping and survive `strip` -/

def XmlSafe (s : Str) : Prop := ∀ c ∈ s, c ≠ '&' ∧ c ≠ '<' ∧ c ≠ '>'
def NoSpace (s : Str) : Prop := ∀ c ∈ s, isSpace c = false
/-- what CPython's `str(float)` / `b64encode` produce: non-empty, no white space, no markup -/
def CleanTok (s : Str) : Prop := s ≠ [] ∧ XmlSafe s ∧ NoSpace s

theorem escText_safe {s : Str} (h : XmlSafe s) : escText s = s := by
  induction s with
  | nil => rfl
  | cons c cs ih =>
    obtain ⟨hc, hcs⟩ := List.forall_mem_cons.1 h
    unfold escText
    simp [hc.1, hc.2.1, hc.2.2, ih hcs]

theorem cleanTok_esc {s : Str} (h : CleanTok s) : escText s = s := escText_safe h.2.1

theorem strip_clean {s : Str} (h : CleanTok s) : Opcua.strip s = s := strip_of_no_space s h.2.2

/-- printed integers and DateTimes are made of digits and `-T:.Z`, so they are clean tokens -/
theorem cleanTok_of_chars {s : Str} (hne : s ≠ []) (h : ∀ c ∈ s, IsDigit c ∨ c ∈ ['-', 'T', ':', '.', 'Z']) :
    CleanTok s := by
  have ok : ∀ c, IsDigit c ∨ c ∈ ['-', 'T', ':', '.', 'Z'] → (c ≠ '&' ∧ c ≠ '<' ∧ c ≠ '>') ∧ isSpace c = false := by
    intro c hc
    rcases hc with hd | hp
    · exact ⟨⟨hd.ne (by decide), hd.ne (by decide), hd.ne (by decide)⟩, hd.not_space⟩
    · revert c; decide
  exact ⟨hne, fun c hc => (ok c (h c hc)).1, fun c hc => (ok c (h c hc)).2⟩

theorem pyStrInt_clean (i : Int) : CleanTok (pyStrInt i) := by
  refine cleanTok_of_chars ?_ fun c hc => (pyStrInt_chars i c hc).imp_right (by rintro rfl; decide)
  cases i with
  | ofNat n => exact showNat_ne_nil n
  | negSucc n => exact List.cons_ne_nil _ _

theorem dtPrint_clean (d : DT) : CleanTok d.print := by
  have pad : ∀ w n, ∀ c ∈ padNat w n, IsDigit c ∨ c ∈ ['-', 'T', ':', '.', 'Z'] :=
    fun w n c hc => .inl (padNat_digits w n c hc)
  refine cleanTok_of_chars (fun e => showNat_ne_nil _ (List.append_eq_nil_iff.1 e).1) ?_
  simp only [DT.print, List.forall_mem_append, List.forall_mem_cons]
  -- field by field in the order of `DT.print`: the year, then a separator and a padded field six times, `Z`
  exact ⟨fun c hc => .inl (showNat_digits _ c hc), .inr (by decide), pad _ _, .inr (by decide), pad _ _,
    .inr (by decide), pad _ _, .inr (by decide), pad _ _, .inr (by decide), pad _ _, .inr (by decide), pad _ _,
    .inr (by decide), nofun⟩

/-- **integers keep every digit**: `int(str(i)) == i` for every integer, hence for every width -/
theorem int_text_roundtrip (i : Int) : pyInt (strip (pyStrInt i)) = some i := by
  rw [strip_clean (pyStrInt_clean i)]; exact pyInt_pyStrInt i

/-! ### the layout tree behind the emitted text -/

def xmlnsAttrs (b : Bool) : List PAttr := if b then [⟨[' '], "xmlns".toList, TYPES_NS⟩] else []

/-- the namespace URI needs no escaping (`+kernel`: on a literal of this length the elaborator's own evaluation
    of `String.toList` is three times slower than the kernel's, and would come on top of it) -/
theorem escAttr_typesNs : escAttr TYPES_NS = TYPES_NS := by decide +kernel

theorem printAttrs_xmlns (b : Bool) : printAttrs (xmlnsAttrs b) = xmlnsAttr b := by
  cases b
  · rfl
  · rw [xmlnsAttrs, xmlnsAttr, if_pos rfl, if_pos rfl, printAttrs_cons, printAttr_eq, escAttr_typesNs]
    exact List.append_nil _

def leafX (tag : Str) (b : Bool) (text : Str) : X := .node tag (xmlnsAttrs b) [] false text .nil
def nodeX (tag : Str) (b : Bool) (kids : XS) : X := .node tag (xmlnsAttrs b) [] false [] kids

theorem wrap_leaf (tag : Str) (b : Bool) (text : Str) : wrap tag b (escText text) = render (leafX tag b text) := by
  simp [wrap, leafX, render, renderS, printOpen, printClose, printAttrs_xmlns, escOf]

theorem wrap_clean (tag : Str) (b : Bool) {text : Str} (h : escText text = text) :
    wrap tag b text = render (leafX tag b text) := by
  rw [← wrap_leaf, h]

theorem wrap_node (tag : Str) (b : Bool) (kids : XS) : wrap tag b (renderS kids) = render (nodeX tag b kids) := by
  simp [wrap, nodeX, render, printOpen, printClose, printAttrs_xmlns, escText, escOf]

theorem wrap_xs1 (tag : Str) (b : Bool) (x : X) : wrap tag b (render x) = render (nodeX tag b (.cons x .nil)) := by
  rw [← wrap_node, renderS, renderS, List.append_nil]

def xs2 (a b : X) : XS := .cons a (.cons b .nil)

theorem wrap_xs2 (tag : Str) (b : Bool) (x y : X) :
    wrap tag b (render x ++ render y) = render (nodeX tag b (xs2 x y)) := by
  rw [← wrap_node, xs2, renderS, renderS, renderS, List.append_nil]

def ltX (tag : Str) (b : Bool) (text loc : Str) : X :=
  nodeX tag b (xs2 (leafX tLoc false loc) (leafX tText false text))

theorem ltX_text (tag : Str) (b : Bool) (text : Str) {loc : Str} (hl : escText loc = loc) :
    wrap tag b (wrap tLoc false loc ++ wrap tText false (escText text)) = render (ltX tag b text loc) := by
  rw [wrap_clean _ _ hl, wrap_leaf, wrap_xs2, ltX]

theorem euLT_render (tag : Str) (text : Option Str) {loc : Str} (hl : CleanTok loc) :
    euLT tag text (some loc) = render (ltX tag false (optS text) loc) :=
  ltX_text tag false (optS text) (cleanTok_esc hl)

/-- the layout of an ExtensionObject: `<TypeId><Identifier>` and `<Body>` -/
def extX (b : Bool) (idText : Str) (body : X) : X :=
  nodeX tExt b (xs2 (nodeX tTypeId false (.cons (leafX tId false idText) .nil)) (nodeX tBody false (.cons body .nil)))

theorem extWrap_render (b : Bool) {idText : Str} (hid : escText idText = idText) (body : X) :
    extWrap b idText (render body) = render (extX b idText body) := by
  rw [extWrap, wrap_clean _ _ hid, wrap_xs1, wrap_xs1, wrap_xs2, extX]

/- The supported values: the statement's domain minus the recorded findings. The clauses exclude: an unsigned kind
   holding a negative number (the parser rejects it); float and byte-string tokens that are not what `str(float)` /
   `b64encode` print; the null Boolean (written as an empty element, read as `None`: `null_boolean_witness`); years that
   are not printed with four digits (`year_below_1000_witness`); an empty text inside a LocalizedText or an EUInformation
   (read back as missing; a String is covered up to `canon`); for EUInformation
   an empty or blank-ended URI (the parser answers `None`, or strips it) and a missing Locale (written as `en`, so it
   comes back as `en`); every class the parser reads as something else (`guid_witness`, `nodeid_witness`). -/
mutual
def Supported : Val → Prop
  | .int k v => ∀ i, v = some i → k.unsigned = true → 0 ≤ i
  | .flt _ v => ∀ s, v = some s → CleanTok s
  | .str _ => True
  | .bool v => v ≠ none
  | .dateTime d => 1000 ≤ d.year ∧ d.year ≤ 9999 ∧ d.month ≤ 99 ∧ d.day ≤ 99 ∧ d.hour ≤ 99 ∧ d.minute ≤ 99 ∧
      d.second ≤ 99 ∧ d.micro ≤ 999999
  | .byteString v => ∀ s, v = some s → CleanTok s
  | .locText t l => t ≠ some [] ∧ ∀ s, l = some s → CleanTok s
  | .euRange lo hi => CleanTok lo ∧ CleanTok hi
  | .engUnits uri _ dT dL eT eL => uri ≠ [] ∧ rstrip uri = uri ∧ dT ≠ some [] ∧ eT ≠ some [] ∧
      (∃ s, dL = some s ∧ CleanTok s) ∧ (∃ s, eL = some s ∧ CleanTok s)
  | .list tn items => NameOK (tListOf ++ tn) ∧ SupportedS items
  | _ => False
def SupportedS : ValS → Prop
  | .nil => True
  | .cons v vs => Supported v ∧ SupportedS vs
end

mutual
def encodeX : Val → Bool → X
  | .int k v, b => leafX k.tag b (intText v)
  | .flt dbl v, b => leafX (if dbl then tDouble else tFloat) b (optS v)
  | .str v, b => leafX tString b (optS v)
  | .bool v, b => leafX tBoolean b (boolText v)
  | .dateTime d, b => leafX tDateTime b d.print
  | .byteString v, b => leafX tByteString b (optS v)
  | .locText t l, b => ltX tLT b (optS t) (optS l)
  | .euRange lo hi, b => nodeX tExt b (xs2
      (nodeX tTypeId false (.cons (leafX tId false "i=885".toList) .nil))
      (nodeX tBody false (.cons (nodeX tRange false (xs2 (leafX tLow false lo) (leafX tHigh false hi))) .nil)))
  | .engUnits uri unit dT dL eT eL, b => nodeX tExt b (xs2
      (nodeX tTypeId false (.cons (leafX tId false "i=888".toList) .nil))
      (nodeX tBody false (.cons (nodeX tEU false
        (.cons (leafX tNsUri false uri) (.cons (leafX tUnitId false (pyStrInt unit))
          (xs2 (ltX tDispName false (optS dT) (dL.getD "en".toList))
               (ltX tDescr false (optS eT) (eL.getD "en".toList)))))) .nil)))
  -- the list encoder writes a blank after the tag name whether or not the xmlns attribute follows: with the
  -- attribute that makes two blanks in front of it, without it the blank is the trail of the tag
  | .list tn items, b =>
    .node (tListOf ++ tn) (if b then [⟨[' ', ' '], "xmlns".toList, TYPES_NS⟩] else []) (if b then [] else [' ']) false []
      (encodeXS items)
  | _, _ => leafX [] false []
def encodeXS : ValS → XS
  | .nil => .nil
  | .cons v vs => .cons (encodeX v false) (encodeXS vs)
end

theorem optS_esc {v : Option Str} (h : ∀ s, v = some s → CleanTok s) : escText (optS v) = optS v := by
  cases v with
  | none => rfl
  | some s => exact cleanTok_esc (h s rfl)

theorem intText_esc (v : Option Int) : escText (intText v) = intText v := by
  cases v with
  | none => rfl
  | some i => exact cleanTok_esc (pyStrInt_clean i)

theorem boolText_esc (v : Option Bool) : escText (boolText v) = boolText v := by
  cases v with
  | none => rfl
  | some b => cases b <;> decide

mutual
/-- **the emitted text is the rendering of the layout tree** (for supported values) -/
theorem encodeText_render (v : Val) (b : Bool) (h : Supported v) : encodeText v b = render (encodeX v b) := by
  match v, h with
  | .int k v, _ => exact wrap_clean _ _ (intText_esc v)
  | .flt dbl v, h => exact wrap_clean _ _ (optS_esc h)
  | .str v, _ => exact wrap_leaf _ _ _
  | .bool v, _ => exact wrap_clean _ _ (boolText_esc v)
  | .dateTime d, _ => exact wrap_clean _ _ (cleanTok_esc (dtPrint_clean d))
  | .byteString v, h => exact wrap_clean _ _ (optS_esc h)
  | .locText t l, h => exact ltX_text tLT b (optS t) (optS_esc h.2)
  | .euRange lo hi, h =>
    rw [encodeText, wrap_clean _ _ (cleanTok_esc h.1), wrap_clean _ _ (cleanTok_esc h.2), wrap_xs2,
      extWrap_render b (by decide)]
    rfl
  | .engUnits uri unit dT dL eT eL, h =>
    obtain ⟨_, _, _, _, ⟨dl, rfl, hdl⟩, ⟨el, rfl, hel⟩⟩ := h
    have kids : ∀ x₁ x₂ x₃ x₄ : X,
        render x₁ ++ render x₂ ++ render x₃ ++ render x₄ = renderS (.cons x₁ (.cons x₂ (xs2 x₃ x₄))) := by
      intro x₁ x₂ x₃ x₄
      simp only [renderS, xs2, List.append_assoc, List.append_nil]
    rw [encodeText, wrap_leaf, wrap_clean _ _ (cleanTok_esc (pyStrInt_clean unit)),
      euLT_render _ _ hdl, euLT_render _ _ hel, kids, wrap_node, extWrap_render b (by decide)]
    rfl
  | .list tn items, h =>
    simp only [encodeText, encodeX, render, printOpen, printClose, escText, escOf, Bool.false_eq_true, if_false]
    rw [encodeTexts_render items h.2]
    cases b
    · simp [printAttrs, xmlnsAttr]
    · have : printAttrs [⟨[' ', ' '], ['x', 'm', 'l', 'n', 's'], TYPES_NS⟩] = ' ' :: xmlnsAttr true :=
        congrArg (' ' :: ·) (printAttrs_xmlns true)
      simp [this]
theorem encodeTexts_render (vs : ValS) (h : SupportedS vs) : encodeTexts vs = renderS (encodeXS vs) := by
  match vs, h with
  | .nil, _ => rfl
  | .cons v rest, h =>
    simp only [encodeTexts, encodeXS, renderS]
    rw [encodeText_render v false h.1, encodeTexts_render rest h.2]
end

/-! ### well-formedness of the layout, and what a conforming reader sees -/

theorem xmlns_ok {ws : Str} (hws : ws = [' '] ∨ ws = [' ', ' ']) (b : Bool) :
    ∀ a ∈ (if b then [(⟨ws, "xmlns".toList, TYPES_NS⟩ : PAttr)] else []), a.ws ≠ [] ∧ a.OK := by
  cases b
  · nofun
  · exact List.forall_mem_singleton.2 (pattr_spaces hws (by decide))

theorem leafX_WF {tag : Str} {b : Bool} {text : Str} (h : NameOK tag) : WF (leafX tag b text) :=
  ⟨openOK_of h (xmlns_ok (.inl rfl) b) nofun, trivial⟩

theorem nodeX_WF {tag : Str} {b : Bool} {kids : XS} (h : NameOK tag) (hk : WFS kids) : WF (nodeX tag b kids) :=
  ⟨openOK_of h (xmlns_ok (.inl rfl) b) nofun, hk⟩

theorem xs2_WF {a b : X} (ha : WF a) (hb : WF b) : WFS (xs2 a b) := ⟨ha, hb, trivial⟩
theorem xs1_WF {a : X} (ha : WF a) : WFS (.cons a .nil) := ⟨ha, trivial⟩

theorem ltX_WF {tag : Str} {b : Bool} {text loc : Str} (h : NameOK tag) : WF (ltX tag b text loc) :=
  nodeX_WF h (xs2_WF (leafX_WF (by decide)) (leafX_WF (by decide)))

theorem extX_WF {b : Bool} {idText : Str} {body : X} (h : WF body) : WF (extX b idText body) :=
  nodeX_WF (by decide) (xs2_WF
    (nodeX_WF (by decide) (xs1_WF (leafX_WF (by decide))))
    (nodeX_WF (by decide) (xs1_WF h)))

theorem intTag_facts (k : IntKind) :
    NameOK k.tag ∧ startsWith k.tag tListOf = false ∧ IntKind.ofTag k.tag = some k := by
  cases k <;> decide

mutual
theorem encodeX_WF (v : Val) (b : Bool) (h : Supported v) : WF (encodeX v b) := by
  match v, h with
  | .int k v, _ => exact leafX_WF (intTag_facts k).1
  | .flt dbl v, _ => cases dbl <;> exact leafX_WF (by decide)
  | .str v, _ => exact leafX_WF (by decide)
  | .bool v, _ => exact leafX_WF (by decide)
  | .dateTime d, _ => exact leafX_WF (by decide)
  | .byteString v, _ => exact leafX_WF (by decide)
  | .locText t l, _ => exact ltX_WF (by decide)
  | .euRange lo hi, _ =>
    exact extX_WF (nodeX_WF (by decide)
      (xs2_WF (leafX_WF (by decide)) (leafX_WF (by decide))))
  | .engUnits uri unit dT dL eT eL, _ =>
    exact extX_WF (nodeX_WF (by decide)
      ⟨leafX_WF (by decide), leafX_WF (by decide),
        xs2_WF (ltX_WF (by decide)) (ltX_WF (by decide))⟩)
  | .list tn items, h =>
    refine ⟨openOK_of h.1 (xmlns_ok (.inr rfl) b) ?_, encodeXS_WF items h.2⟩
    cases b <;> decide
theorem encodeXS_WF (vs : ValS) (h : SupportedS vs) : WFS (encodeXS vs) := by
  match vs, h with
  | .nil, _ => trivial
  | .cons v rest, h => exact ⟨encodeX_WF v false h.1, encodeXS_WF rest h.2⟩
end

/-- **text_is_tree** — the encoding is a well-formed fragment, and reading it gives exactly the
    intended element tree (with the types-namespace declaration on the outer element when asked) -/
theorem text_is_tree (v : Val) (b : Bool) (h : Supported v) :
    parseXml (encodeText v b) = some (Xml.strip (encodeX v b)) := by
  rw [encodeText_render v b h]
  exact parseXml_render _ (encodeX_WF v b h)

/-! ### from the tree back to the value -/

-- what decoding promises: text modulo outer white space, empty = null
mutual
def canon : Val → Val
  | .str v => .str (optOfText (Opcua.strip (optS v)))
  | .list tn items => .list tn (canonS items)
  | v => v
def canonS : ValS → ValS
  | .nil => .nil
  | .cons v vs => .cons (canon v) (canonS vs)
end

theorem strip_leafX (tag : Str) (b : Bool) (text : Str) :
    Xml.strip (leafX tag b text) = .node tag ((xmlnsAttrs b).map fun a => (a.k, a.v)) text .nil := by
  simp [leafX, Xml.strip, stripS]

theorem strip_nodeX (tag : Str) (b : Bool) (kids : XS) :
    Xml.strip (nodeX tag b kids) = .node tag ((xmlnsAttrs b).map fun a => (a.k, a.v)) [] (stripS kids) := by
  simp [nodeX, Xml.strip]

theorem optOfText_optS {v : Option Str} (h : v ≠ some []) : optOfText (optS v) = v := by
  cases v with
  | none => rfl
  | some s =>
    have : s ≠ [] := fun e => h (by rw [e])
    simp [optOfText, optS, this]

theorem optOfText_clean {v : Option Str} (h : ∀ s, v = some s → CleanTok s) :
    optOfText (Opcua.strip (optS v)) = v := by
  cases v with
  | none => rfl
  | some s =>
    have hc := h s rfl
    simp [optS, strip_clean hc, optOfText, hc.1]

theorem decode_int {k : IntKind} {v : Option Int} {attrs : List (Str × Str)}
    (h : ∀ i, v = some i → k.unsigned = true → 0 ≤ i) :
    decodeT (.node k.tag attrs (intText v) .nil) = .ok (.int k v) := by
  simp only [decodeT, (intTag_facts k).2, decodeScalar, Bool.false_eq_true, if_false]
  cases v with
  | none => exact if_pos rfl
  | some i =>
    simp only [intText, strip_clean (pyStrInt_clean i), (pyStrInt_clean i).1, if_false, pyInt_pyStrInt]
    exact if_neg fun ⟨hu, hi⟩ => Int.not_le.2 hi (h i rfl hu)

/-- `parse_localized_text` on `<Locale>` followed by `<Text>` -/
theorem parseLT_tree (tag : Str) (a a1 a2 : List (Str × Str)) (text loc : Str) :
    parseLT (.node tag a [] (.cons (.node tLoc a1 loc .nil) (.cons (.node tText a2 text .nil) .nil))) =
      (optOfText text, if Opcua.strip loc = [] then none else some loc) := by
  have h : tLoc ≠ tText := by decide
  simp only [parseLT, T.kids, findKid, T.tag, T.text, h, if_false, if_true]
  rfl

theorem locale_optS {l : Option Str} (h : ∀ s, l = some s → CleanTok s) :
    (if Opcua.strip (optS l) = [] then none else some (optS l)) = l := by
  cases l with
  | none => rfl
  | some s =>
    have hc := h s rfl
    simp [optS, strip_clean hc, hc.1]

/-- what the dispatch in `decodeT` / `decodeScalar` asks about each tag the encoders write: no `ListOf…`, no integer
    tag, different from the tags tested before it (a `decide` per row: instance search gives up on the whole) -/
theorem tag_facts :
    (startsWith tFloat tListOf = false ∧ IntKind.ofTag tFloat = none) ∧
    (startsWith tDouble tListOf = false ∧ IntKind.ofTag tDouble = none ∧ tDouble ≠ tFloat) ∧
    (startsWith tString tListOf = false ∧ IntKind.ofTag tString = none ∧ tString ≠ tFloat ∧ tString ≠ tDouble) ∧
    (startsWith tByteString tListOf = false ∧ IntKind.ofTag tByteString = none ∧ tByteString ≠ tFloat ∧
      tByteString ≠ tDouble ∧ tByteString ≠ tString ∧ tByteString ≠ tGuid) ∧
    (startsWith tDateTime tListOf = false ∧ IntKind.ofTag tDateTime = none ∧ tDateTime ≠ tFloat ∧
      tDateTime ≠ tDouble ∧ tDateTime ≠ tString ∧ tDateTime ≠ tGuid ∧ tDateTime ≠ tByteString) ∧
    (startsWith tBoolean tListOf = false ∧ IntKind.ofTag tBoolean = none ∧ tBoolean ≠ tFloat ∧
      tBoolean ≠ tDouble ∧ tBoolean ≠ tString ∧ tBoolean ≠ tGuid ∧ tBoolean ≠ tByteString ∧ tBoolean ≠ tDateTime) ∧
    (startsWith tLT tListOf = false ∧ IntKind.ofTag tLT = none ∧ tLT ≠ tFloat ∧ tLT ≠ tDouble ∧
      tLT ≠ tString ∧ tLT ≠ tGuid ∧ tLT ≠ tByteString ∧ tLT ≠ tDateTime ∧ tLT ≠ tBoolean ∧ tLT ≠ tNodeId ∧
      tLT ≠ tTypeId) ∧
    (startsWith tExt tListOf = false ∧ IntKind.ofTag tExt = none ∧ tExt ≠ tFloat ∧ tExt ≠ tDouble ∧
      tExt ≠ tString ∧ tExt ≠ tGuid ∧ tExt ≠ tByteString ∧ tExt ≠ tDateTime ∧ tExt ≠ tBoolean ∧ tExt ≠ tNodeId ∧
      tExt ≠ tTypeId ∧ tExt ≠ tLT) :=
  ⟨by decide, by decide, by decide, by decide, by decide, by decide, by decide, by decide⟩

theorem decode_flt (dbl : Bool) (a : List (Str × Str)) (t : Str) (k : TS) :
    decodeT (.node (if dbl then tDouble else tFloat) a t k) = .ok (.flt dbl (optOfText (Opcua.strip t))) := by
  cases dbl <;> simp only [decodeT, decodeScalar, tag_facts, Bool.false_eq_true, ↓reduceIte]

theorem decode_string (a : List (Str × Str)) (t : Str) (k : TS) :
    decodeT (.node tString a t k) = .ok (.str (optOfText (Opcua.strip t))) := by
  simp only [decodeT, decodeScalar, tag_facts, Bool.false_eq_true, ↓reduceIte]

theorem decode_bytes (a : List (Str × Str)) (t : Str) (k : TS) :
    decodeT (.node tByteString a t k) = .ok (.byteString (optOfText (Opcua.strip t))) := by
  simp only [decodeT, decodeScalar, tag_facts, Bool.false_eq_true, ↓reduceIte]

theorem decode_datetime (a : List (Str × Str)) (t : Str) (k : TS) (d : DT) (h : parseDT (Opcua.strip t) = some d) :
    decodeT (.node tDateTime a t k) = .ok (.dateTime d) := by
  simp only [decodeT, decodeScalar, tag_facts, Bool.false_eq_true, ↓reduceIte, h]

theorem decode_bool (a : List (Str × Str)) (t : Str) (k : TS) :
    decodeT (.node tBoolean a t k) =
      if t = [] then .ok .pyNone else if Opcua.strip t = [] then .ok (.bool none)
      else .ok (.bool (some (decide (Opcua.strip t = tTrue ∨ Opcua.strip t = tTrue')))) := by
  simp only [decodeT, decodeScalar, tag_facts, Bool.false_eq_true, ↓reduceIte]

theorem decode_lt (a : List (Str × Str)) (t : Str) (k : TS) :
    decodeT (.node tLT a t k) = .ok (.locText (parseLT (.node tLT a t k)).1 (parseLT (.node tLT a t k)).2) := by
  simp only [decodeT, decodeScalar, tag_facts, Bool.false_eq_true, ↓reduceIte]

/-- an ExtensionObject whose `<TypeId>` is `i=888` or `i=885` is handed to the parser for its body -/
theorem decode_ext {a a1 a2 a3 : List (Str × Str)} {idText : Str} (n : NodeId) {body : T}
    (hp : parseNodeId idText [] none = .ok n)
    (hn : isNumeric888 n "888".toList = true ∨ isNumeric888 n "885".toList = true) :
    decodeT (.node tExt a [] (.cons (.node tTypeId a1 [] (.cons (.node tId a2 idText .nil) .nil))
      (.cons (.node tBody a3 [] (.cons body .nil)) .nil))) =
    if isNumeric888 n "888".toList then parseEU (some (.node tBody a3 [] (.cons body .nil)))
    else parseRange (some (.node tBody a3 [] (.cons body .nil))) := by
  have m : tTypeId ≠ tBody := by decide
  -- the empty text is no NodeId
  have hne : idText ≠ [] := by
    rintro rfl
    have : parseNodeId [] [] none = .error .valueError := by decide
    rw [this] at hp
    cases hp
  simp only [decodeT, decodeScalar, tag_facts, typeIdOf, findKid, T.tag, T.kids, T.text, m, hne, hp, Bool.false_eq_true,
    ↓reduceIte]
  cases h8 : isNumeric888 n "888".toList with
  | true => rfl
  | false =>
    have h5 : isNumeric888 n "885".toList = true := hn.resolve_left (by rw [h8]; decide)
    simp only [h5, Bool.false_eq_true, ↓reduceIte]

theorem decode_unknown {tag : Str} (h1 : startsWith tag tListOf = false) (h2 : IntKind.ofTag tag = none)
    (h3 : tag ∉ [tFloat, tDouble, tString, tGuid, tByteString, tDateTime, tBoolean, tNodeId, tTypeId, tLT, tExt])
    (a : List (Str × Str)) (t : Str) (k : TS) : decodeT (.node tag a t k) = .ok (.xmlElem (.node tag a t k)) := by
  simp only [List.mem_cons, List.not_mem_nil, or_false, not_or] at h3
  simp only [decodeT, decodeScalar, h1, h2, h3, Bool.false_eq_true, ↓reduceIte]

theorem parseEU_tree {uri : Str} {unit : Int} {dn de : T} {a0 a1 a2 a3 : List (Str × Str)}
    (hu : uri ≠ []) (hr : rstrip uri = uri) (hdn : dn.tag = tDispName) (hde : de.tag = tDescr) :
    parseEU (some (.node tBody a0 [] (.cons (.node tEU a1 [] (.cons (.node tNsUri a2 uri .nil)
      (.cons (.node tUnitId a3 (pyStrInt unit) .nil) (.cons dn (.cons de .nil))))) .nil))) =
    .ok (.engUnits uri unit (parseLT dn).1 (parseLT dn).2 (parseLT de).1 (parseLT de).2) := by
  have q : tNsUri ≠ tUnitId ∧ tNsUri ≠ tDispName ∧ tNsUri ≠ tDescr ∧ tUnitId ≠ tDispName ∧ tUnitId ≠ tDescr ∧
      tDispName ≠ tDescr := by decide
  simp only [parseEU, findKid, T.tag.eq_1, T.kids, T.text, q, hdn, hde, hu, hr, int_text_roundtrip, if_false, if_true]

theorem parseRange_tree {lo hi : Str} {a0 a1 a2 a3 : List (Str × Str)} (hlo : CleanTok lo) (hhi : CleanTok hi) :
    parseRange (some (.node tBody a0 [] (.cons (.node tRange a1 [] (.cons (.node tLow a2 lo .nil)
      (.cons (.node tHigh a3 hi .nil) .nil))) .nil))) = .ok (.euRange lo hi) := by
  have q : tLow ≠ tHigh := by decide
  simp only [parseRange, findKid, T.tag, T.kids, T.text, q, strip_clean hlo, strip_clean hhi, hlo.1, hhi.1,
    or_self, if_false, if_true]

mutual
/-- **tree_roundtrip** — the value parser maps the intended tree of every supported value back to
    that value: integers exactly, tokens unchanged, text up to outer white space, DateTime fields,
    structures field by field, lists element by element (nested lists included) -/
theorem tree_roundtrip (v : Val) (b : Bool) (h : Supported v) :
    decodeT (Xml.strip (encodeX v b)) = .ok (canon v) := by
  match v, h with
  | .int k v, h => exact decode_int h
  | .flt dbl v, h =>
    simp only [encodeX, strip_leafX, canon]
    rw [decode_flt, optOfText_clean h]
  | .str v, _ => exact decode_string _ _ _
  | .bool v, h =>
    have texts : ∀ bb, boolText (some bb) ≠ [] ∧ Opcua.strip (boolText (some bb)) ≠ [] ∧
        decide (Opcua.strip (boolText (some bb)) = tTrue ∨ Opcua.strip (boolText (some bb)) = tTrue') = bb := by
      decide
    match v, h with
    | none, h => exact absurd rfl h
    | some bb, _ =>
      obtain ⟨n1, n2, d⟩ := texts bb
      simp only [encodeX, strip_leafX, canon]
      rw [decode_bool, if_neg n1, if_neg n2, d]
  | .dateTime d, h =>
    obtain ⟨y1, y2, mo, da, ho, mi, se, us⟩ := h
    simp only [encodeX, strip_leafX, canon]
    apply decode_datetime
    rw [strip_clean (dtPrint_clean d)]
    exact parseDT_print d ⟨y1, y2⟩ mo da ho mi se us
  | .byteString v, h =>
    simp only [encodeX, strip_leafX, canon]
    rw [decode_bytes, optOfText_clean h]
  | .locText t l, h =>
    simp only [encodeX, ltX, strip_nodeX, xs2, stripS, strip_leafX, canon]
    rw [decode_lt, parseLT_tree, optOfText_optS h.1, locale_optS h.2]
  | .euRange lo hi, h =>
    simp only [encodeX, strip_nodeX, canon, xs2, stripS, strip_leafX]
    -- the identifier text `i=885` parses to the numeric id 885 of namespace 0: a Range
    rw [decode_ext ⟨0, .i, "885".toList⟩ (by decide) (.inr (by decide)),
      if_neg (by decide)]
    exact parseRange_tree h.1 h.2
  | .engUnits uri unit dT dL eT eL, h =>
    obtain ⟨hu, hr, hdt, het, ⟨dl, rfl, hdl⟩, ⟨el, rfl, hel⟩⟩ := h
    simp only [encodeX, strip_nodeX, canon, xs2, stripS, strip_leafX, Option.getD_some, ltX]
    -- likewise `i=888`: EUInformation
    rw [decode_ext ⟨0, .i, "888".toList⟩ (by decide) (.inl (by decide)),
      if_pos (by decide), parseEU_tree hu hr rfl rfl, parseLT_tree, parseLT_tree,
      optOfText_optS hdt, optOfText_optS het, strip_clean hdl, strip_clean hel, if_neg hdl.1, if_neg hel.1]
  | .list tn items, h =>
    simp only [encodeX, Xml.strip, canon]
    have e1 : startsWith (tListOf ++ tn) tListOf = true := startsWith_append _ _
    have e2 : (tListOf ++ tn).drop 6 = tn := List.drop_left' (by decide)
    simp only [decodeT, e1, if_true, roundtripS items h.2, e2]
theorem roundtripS (vs : ValS) (h : SupportedS vs) : decodeTS (stripS (encodeXS vs)) = .ok (canonS vs) := by
  match vs, h with
  | .nil, _ => simp [encodeXS, stripS, decodeTS, canonS]
  | .cons v rest, h =>
    simp only [encodeXS, stripS, decodeTS, canonS, tree_roundtrip v false h.1, roundtripS rest h.2]
end

/-- **C08, end to end on the model**: read the emitted text with a conforming reader and decode:
    the original value comes back. -/
theorem decode_encode (v : Val) (b : Bool) (h : Supported v) :
    (parseXml (encodeText v b)).map decodeT = some (.ok (canon v)) := by
  rw [text_is_tree v b h, Option.map_some, tree_roundtrip v b h]

/-! ### recorded findings as negative witnesses (tests on single values) -/

/-- D-C08e: a null Boolean is written as an empty element, which the parser turns into Python `None` -/
theorem null_boolean_witness :
    decodeT (Xml.strip (encodeX (.bool none) true)) = .ok .pyNone := by
  simp only [encodeX, strip_leafX]
  rw [decode_bool]; rfl
/-- D-C08b: a Guid is written with the `<String>` tag and comes back as a String -/
theorem guid_witness : (parseXml (encodeText (.guid (some "ab".toList)) false)).map decodeT =
    some (.ok (.str (some "ab".toList))) :=
  decode_encode (.str (some "ab".toList)) false (by unfold Supported; trivial)
/-- D-C08c: a NodeId is written as a bare `<Identifier>`, which is read as a raw XML element -/
theorem nodeid_witness : (parseXml (encodeText (.nodeId ⟨0, .s, "x".toList⟩) false)).map decodeT =
    some (.ok (.xmlElem (.node "Identifier".toList [] "s=x".toList .nil))) := by
  have ht : encodeText (.nodeId ⟨0, .s, "x".toList⟩) false = render (leafX tId false "s=x".toList) := by
    rw [← wrap_leaf]; rfl
  rw [ht, parseXml_render _ (leafX_WF (by decide)), strip_leafX, Option.map_some,
    decode_unknown (by decide) (by decide) (by decide)]
  rfl

/-! ### non-vacuity -/
example : Supported (.list "Int32".toList (.cons (.int .int32 (some (-5))) (.cons (.int .int32 none) .nil))) := by
  simp only [Supported, SupportedS, and_true]
  refine ⟨by decide, ?_, ?_⟩ <;> intro i hi hu <;> simp [IntKind.unsigned] at hu
example : Supported (.str (some " a<b & c> ".toList)) := by unfold Supported; trivial

end Opcua.C08
