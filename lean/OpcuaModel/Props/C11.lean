import OpcuaModel.Model.Validate
/-! # C11 — a UAGraph is closed under its references and look-ups are unambiguous. -/
namespace Opcua.C11
open Opcua

theorem mem_missingSrc (ids : List Nat) (refs : List RefRow) (r : RefRow) :
    r ∈ missingSrc ids refs ↔ r ∈ refs ∧ r.1 ∉ ids := by simp [missingSrc]

theorem mem_missingTrg (ids : List Nat) (refs : List RefRow) (r : RefRow) :
    r ∈ missingTrg ids refs ↔ r ∈ refs ∧ r.2.1 ∉ ids := by simp [missingTrg]

theorem missingSrc_nil_iff (ids : List Nat) (refs : List RefRow) :
    missingSrc ids refs = [] ↔ ∀ r ∈ refs, r.1 ∈ ids := by
  simp only [List.eq_nil_iff_forall_not_mem, mem_missingSrc, not_and, Classical.not_not]

theorem missingTrg_nil_iff (ids : List Nat) (refs : List RefRow) :
    missingTrg ids refs = [] ↔ ∀ r ∈ refs, r.2.1 ∈ ids := by
  simp only [List.eq_nil_iff_forall_not_mem, mem_missingTrg, not_and, Classical.not_not]

/-- **build_ok_iff_closed**: the check passes exactly when the source and the target of every
    reference are defined nodes -/
theorem build_ok_iff_closed (ids : List Nat) (refs : List RefRow) :
    validateClosed ids refs = .ok () ↔ ∀ r ∈ refs, r.1 ∈ ids ∧ r.2.1 ∈ ids := by
  simp only [imp_and, forall_and, ← missingSrc_nil_iff, ← missingTrg_nil_iff, validateClosed]
  by_cases h1 : missingSrc ids refs = []
  · by_cases h2 : missingTrg ids refs = []
    · simp [h1, h2]
    · simp [h1, h2]
  · simp [h1]

/-- **error_lists_exactly**: when a source is missing the error concerns exactly the references
    with a missing source (they are reported through their present target); only when every source
    exists does it concern exactly the references with a missing target -/
theorem error_lists_exactly (ids : List Nat) (refs : List RefRow) :
    (missingSrc ids refs ≠ [] → validateClosed ids refs = .error (.missingSource (missingSrc ids refs))) ∧
    (missingSrc ids refs = [] → missingTrg ids refs ≠ [] →
        validateClosed ids refs = .error (.missingTarget (missingTrg ids refs))) := by
  unfold validateClosed
  constructor
  · intro h; simp [h]
  · intro h1 h2; simp [h1, h2]

/-- **lookup_unique**: a look-up returns an id iff exactly one node (of the class, when one is given)
    carries the browse name; zero or several matches, or an empty name, give `ValueError` -/
theorem lookup_unique (nodes : List NameRow) (name : Str) (cls : Option Str) (hne : name ≠ []) (i : Nat) :
    lookupBrowse nodes name cls = .ok i ↔ ∃ n, candidates nodes name cls = [n] ∧ n.id = i := by
  unfold lookupBrowse
  simp only [hne, if_false]
  constructor
  · intro h
    split at h
    · next n hm => exact ⟨n, hm, Except.ok.inj h⟩
    · cases h
  · rintro ⟨n, hm, rfl⟩
    rw [hm]

theorem lookup_error_is_valueError (nodes : List NameRow) (name : Str) (cls : Option Str) (e : PyErr)
    (h : lookupBrowse nodes name cls = .error e) : e = .valueError := by
  unfold lookupBrowse at h
  split at h
  · cases h; rfl
  · split at h
    · cases h
    · cases h; rfl

/-- a candidate is a node of the graph with that name (and class): nothing is invented -/
theorem mem_candidates (nodes : List NameRow) (name : Str) (cls : Option Str) (n : NameRow) :
    n ∈ candidates nodes name cls ↔ n ∈ nodes ∧ n.browse = name ∧ (∀ c, cls = some c → n.cls = 'U' :: 'A' :: c) := by
  unfold candidates
  cases cls with
  | none => simp
  | some c =>
    simp only [List.mem_filter, Bool.and_eq_true, decide_eq_true_eq, Option.some.injEq, forall_eq']
    exact and_congr_right fun _ => And.comm

/-! ### non-vacuity -/
example : validateClosed [1, 2, 3] [(1, 2, 3), (2, 1, 3)] = .ok () := by decide
example : validateClosed [1, 2] [(9, 2, 1), (1, 8, 1)] = .error (.missingSource [(9, 2, 1)]) := by decide
example : validateClosed [1, 2] [(1, 8, 1)] = .error (.missingTarget [(1, 8, 1)]) := by decide
example : lookupBrowse [⟨1, "UAObject".toList, "a".toList⟩, ⟨2, "UAVariable".toList, "a".toList⟩] "a".toList (some "Object".toList) = .ok 1 := by decide
example : lookupBrowse [⟨1, "UAObject".toList, "a".toList⟩, ⟨2, "UAVariable".toList, "a".toList⟩] "a".toList none = .error .valueError := by decide

end Opcua.C11
