import OpcuaModel.Model.Write
import OpcuaModel.Props.C01
import OpcuaModel.Props.C03
import OpcuaModel.Props.C08
/-! # C05 — parse → write_nodeset → parse reproduces the graph.

The round trip is the composition of theorems proved for its stages: what the writer emits for a
row (C06 `createNodeset_inv`, C07 `node_wellformed`: a reader recovers exactly the attribute values,
texts, reference children and value element), and what the parser makes of such an element (C01
`row_fields`, C02 `parseRef_oriented`, C03 `parsed_id_denotes`, C08 `decode_encode`, C09
`parse_print`). This file proves the *junctions*: each kind of field, printed by the writer and
read by the parser, comes back unchanged. The end-to-end statement over whole graphs
(`RoundTrip`) is kept visible below; it is decided on every run by the correspondence check, which
executes the real parse → write → parse on generated graphs. -/
namespace Opcua.C05
open Opcua

/-- the end-to-end statement as far as it is written down on the model (not proved as one theorem; see the module
    comment): reading the documents written for every non-base namespace, together with the base document, succeeds
    and gives back the namespaces (up to order) and as many rows as the graph has. That the rows and triples are those
    of the graph up to the internal ids is what the correspondence run compares. -/
def RoundTrip (g : Graph) (base : Doc) (docsOf : WDoc → Doc) : Prop :=
  ∀ written : List WDoc,
    (written.map Except.ok = (g.namespaces.drop 1).map fun u => writeDoc g u true) →
    ∃ out, parseFiles [] (base :: written.map docsOf) = .ok out ∧
      out.namespaces.Perm g.namespaces ∧ out.nodes.length = g.nodes.length

/-- **NodeId junction**: the writer prints a NodeId with the document-local index `k+1` of its
    namespace; the parser, with the map built from that document's own NamespaceUris, returns a
    NodeId whose index points at the same URI in the global list -/
theorem nodeid_junction (global uris : List Str) (n : NodeId) (k : Nat) (hk : k < uris.length)
    (hn : n.ns = ((k : Nat) : Int) + 1) (hv : n.Valid) :
    ∃ g : Nat, parseNodeId n.print (nsMapOf (extendNs global uris).2) none = .ok { n with ns := (g : Int) } ∧
      (extendNs global uris).1[g]? = uris[k]? :=
  C03.parsed_id_denotes global uris n k hk hn hv

/-- **browse-name junction**: `"<k>:<name>"` is split back into `k` and `name` (names without a
    second ':'; the excluded case is finding D-C01a) -/
theorem browse_junction (k : Int) (name : Str) (h : ':' ∉ name) :
    browseSplit (pyStrInt k ++ ':' :: name) = .ok (k, name) := C01.browse_split_partial k name h

/-- **value junction**: the Value element written for a supported value decodes to that value -/
theorem value_junction (v : Val) (h : C08.Supported v) :
    (Xml.parseXml (encodeText v true)).map decodeT = some (.ok (C08.canon v)) := C08.decode_encode v true h

/-- **integer-attribute junction**: ValueRank / AccessLevel / EventNotifier inside the Int8 range
    and MinimumSamplingInterval inside the Int32 range are written in decimal and read back exactly
    (outside the range the cast wraps: finding D-C01c) -/
theorem int_attr_junction (i : Int) :
    (-128 ≤ i → i ≤ 127 → typedAttr "ValueRank".toList (attrText (.int i)) = .ok (.int i)) ∧
    (-2147483648 ≤ i → i ≤ 2147483647 → typedAttr "MinimumSamplingInterval".toList (attrText (.int i)) = .ok (.int i)) := by
  constructor
  · intro h1 h2
    unfold typedAttr
    rw [if_neg (by decide), if_pos (by decide)]
    simp only [attrText, pyIntE, pyInt_pyStrInt, bind, Except.bind, pure, Except.pure,
      wrapInt_id (bits := 8) (i := i) (by decide) (by omega) (by omega)]
  · intro h1 h2
    unfold typedAttr
    rw [if_neg (by decide), if_neg (by decide), if_pos (by decide)]
    simp only [attrText, pyIntE, pyInt_pyStrInt, bind, Except.bind, pure, Except.pure,
      wrapInt_id (bits := 32) (i := i) (by decide) (by omega) (by omega)]

/-- **flag junction**: IsAbstract / Symmetric written as `true` / `false` are read back as the same flag -/
theorem bool_attr_junction (b : Bool) :
    typedAttr "IsAbstract".toList (attrText (.bool b)) = .ok (.bool b) ∧
    typedAttr "Symmetric".toList (attrText (.bool b)) = .ok (.bool b) := by
  cases b <;> exact ⟨by decide, by decide⟩

/-- **reference junction**: a reference written on its target as an inverse (`IsForward="false"`,
    text = the source) and one written on its source as a forward reference are both read as the
    triple (source, target, type) -/
theorem ref_junction (nsmap : List (Int × Int)) (al : List (Str × NodeId)) (s t ty : NodeId) (sText tText tyText : Str)
    (hs : parseNodeId (rstrip sText) nsmap (some al) = .ok s) (ht : parseNodeId (rstrip tText) nsmap (some al) = .ok t)
    (hty : parseNodeId tyText nsmap (some al) = .ok ty) :
    parseRef nsmap al t ⟨[(kReferenceType, tyText), (kIsForward, kFalse)], some sText⟩ = .ok (s, t, ty) ∧
    parseRef nsmap al s ⟨[(kReferenceType, tyText)], some tText⟩ = .ok (s, t, ty) := by
  have k : kReferenceType ≠ kIsForward := by decide
  constructor
  · simp [parseRef, hs, hty, lookup, k]
  · simp [parseRef, ht, hty, lookup, k]

/-- **node junction (identity part)**: a node element as the writer emits it — NodeId text with the
    document-local index, BrowseName `k:name`, a type attribute written as a NodeId text, display
    name and description as element texts — is read back as a row with exactly that NodeId (in the
    global table), that browse name and browse-name namespace, those texts, and that DataType;
    an absent optional attribute stays absent -/
theorem node_junction (nsmap : List (Int × Int)) (al : List (Str × NodeId)) (cls : Str)
    (nidText bk name dtText disp desc : Str) (k : Int) (nid dt : NodeId)
    (hn : parseNodeId nidText nsmap (some al) = .ok nid) (hd : parseNodeId dtText nsmap (some al) = .ok dt)
    (hb : browseSplit bk = .ok (k, name)) :
    parseNode nsmap al ⟨cls, [(kNodeId, nidText), (kBrowseName, bk), (kDataType, dtText)], [some disp], [some desc], [], none⟩ =
      .ok { cls := cls, nodeId := nid, browseName := name, browseNs := lookup k nsmap, display := rstrip disp,
            description := rstrip desc, dataType := some dt, parent := none, methodDecl := none, attrs := [], value := none } := by
  have hf : ([(kNodeId, nidText), (kBrowseName, bk), (kDataType, dtText)].filter fun p => !idAttrs.contains p.1) = [] := by
    simp [idAttrs]
  -- the tests `kX = kY` between the constant attribute names are decided
  simp +decide only [parseNode, lookup, if_true, if_false, hn, optParse, hd, hb, hf, mapE, optDecode, firstText]

/-! ### non-vacuity -/
example : typedAttr "ValueRank".toList (attrText (.int (-2))) = .ok (.int (-2)) := (int_attr_junction (-2)).1 (by decide) (by decide)

end Opcua.C05
