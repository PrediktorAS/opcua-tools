import OpcuaModel.Lemmas.List
import OpcuaModel.Lemmas.Parse
/-! # C02 — the references table is exactly the declared relation, oriented forward. -/
namespace Opcua.C02
open Opcua

/-- the relation a document declares, read off its elements (specification; no tables, no order):
    some Reference element `x` of some node element `e` (whose row is `r`) yields the triple -/
def Declared (nsmap : List (Int × Int)) (al : List (Str × NodeId)) (elems : List NodeElem) (rows : List NodeRow)
    (t : Triple) : Prop :=
  ∃ q ∈ elems.zip rows, ∃ x ∈ q.1.refs, parseRef nsmap al q.2.nodeId x = .ok t

/-- **orientation**: a Reference whose `IsForward` is literally `"false"` is stored other → node,
    every other Reference node → other, with the type resolved from alias or NodeId -/
theorem parseRef_oriented (nsmap : List (Int × Int)) (al : List (Str × NodeId)) (src : NodeId) (x : RefElem)
    (t : Triple) (h : parseRef nsmap al src x = .ok t) :
    ∃ txt other tyText ty, x.text = some txt ∧ parseNodeId (rstrip txt) nsmap (some al) = .ok other ∧
      lookup kReferenceType x.attrs = some tyText ∧ parseNodeId tyText nsmap (some al) = .ok ty ∧
      t = (if lookup kIsForward x.attrs = some kFalse then (other, src, ty) else (src, other, ty)) := by
  unfold parseRef at h
  split at h
  · cases h
  · next txt htxt =>
    split at h
    · cases h
    · next other ho =>
      split at h
      · cases h
      · next tyText hty =>
        split at h
        · cases h
        · next ty hp =>
          rw [← apply_ite Except.ok] at h
          exact ⟨txt, other, tyText, ty, htxt, ho, hty, hp, (Except.ok.inj h).symm⟩

/-- **refs_sound_complete** (one document): the table holds exactly the declared triples — none
    lost, none invented, whether or not the other end point is defined anywhere -/
theorem refs_sound_complete (g : List Str) (d : Doc) (k : Nat) (g1 : List Str) (p : ParsedDoc)
    (h : parseDoc g d k = .ok (g1, p)) :
    ∃ al, aliasTable (nsMapOf (extendNs (withUA g) d.uris).2) d.aliases = .ok al ∧
      ∀ t, t ∈ p.refs ↔ Declared (nsMapOf (extendNs (withUA g) d.uris).2) al d.nodes p.nodes t := by
  obtain ⟨al, rows, trips, hal, _, _, htr, _, rfl⟩ := parseDoc_inv h
  refine ⟨al, hal, fun t => ?_⟩
  simp only [dedup, mem_uniques, List.mem_flatten, Declared]
  constructor
  · rintro ⟨l, hl, ht⟩
    obtain ⟨q, hq, hm⟩ := (mapE_ok_mem htr l).1 hl
    obtain ⟨x, hx, hpx⟩ := (mapE_ok_mem hm t).1 ht
    exact ⟨q, hq, x, hx, hpx⟩
  · rintro ⟨q, hq, x, hx, hpx⟩
    -- the inner comprehension for q succeeded as part of the outer one
    obtain ⟨l, hl, hm⟩ := mapE_ok_of_mem htr hq
    exact ⟨l, hl, (mapE_ok_mem hm t).2 ⟨x, hx, hpx⟩⟩

/-- **each triple once** per document -/
theorem refs_nodup (g : List Str) (d : Doc) (k : Nat) (g1 : List Str) (p : ParsedDoc)
    (h : parseDoc g d k = .ok (g1, p)) : p.refs.Nodup := by
  obtain ⟨_, _, trips, _, _, _, _, _, rfl⟩ := parseDoc_inv h
  exact nodup_uniques _

/-- **serialisation independence**: two documents (or two layouts of one) that declare the same
    relation yield tables that are permutations of one another — where and in which direction each
    reference is written does not matter -/
theorem serialisation_perm (l₁ l₂ : List Triple) (h : ∀ t, t ∈ l₁ ↔ t ∈ l₂) : (dedup l₁).Perm (dedup l₂) :=
  (List.perm_ext_iff_of_nodup (nodup_uniques l₁) (nodup_uniques l₂)).2 fun t =>
    (mem_uniques l₁ t).trans ((h t).trans (mem_uniques l₂ t).symm)

/-- writing a reference on its target as an inverse declares the same triple as writing it on its
    source: both orientations of `parseRef` meet in one triple -/
theorem inverse_same (s t ty : NodeId) :
    (if (some kFalse : Option Str) = some kFalse then (s, t, ty) else (t, s, ty)) =
    (if (none : Option Str) = some kFalse then (t, s, ty) else (s, t, ty)) := by simp

/-- **several files**: the combined table holds exactly the union of the files' tables, each triple
    once even when two files declare it -/
theorem files_refs (caller : List Str) (docs : List Doc) (r : ParseOut) (h : parseFiles caller docs = .ok r) :
    r.refs.Nodup ∧ ∃ raw, parseFilesAux caller docs = .ok raw ∧ ∀ t, t ∈ r.refs ↔ t ∈ raw.refs := by
  obtain ⟨raw, hraw, rfl⟩ := parseFiles_inv h
  exact ⟨nodup_uniques _, raw, hraw, fun t => mem_uniques _ t⟩

theorem filesAux_refs (g : List Str) (d : Doc) (ds : List Doc) (r : ParseOut)
    (h : parseFilesAux g (d :: ds) = .ok r) :
    ∃ g1 p r', parseDoc g d = .ok (g1, p) ∧ parseFilesAux g1 ds = .ok r' ∧ r.refs = p.refs ++ r'.refs ∧
      r.nodes = p.nodes ++ r'.nodes := by
  obtain ⟨g1, p, r', hp, hr', rfl⟩ := parseFilesAux_cons_inv h
  exact ⟨g1, p, r', hp, hr', rfl, rfl⟩

/-- **the single-file entry point agrees with the list entry point**: for one document the references of
    `parse_xml_files([file])` are exactly those of the document's own parse (`parse_xml(file)`), in the
    same order — the second, global de-duplication changes nothing -/
theorem single_file_refs (g : List Str) (d : Doc) (g1 : List Str) (p : ParsedDoc) (out : ParseOut)
    (hd : parseDoc g d = .ok (g1, p)) (hf : parseFiles g [d] = .ok out) : out.refs = p.refs ∧ out.nodes = p.nodes ∧ out.models = p.models := by
  simp only [parseFiles, List.cons_ne_nil, if_false, parseFilesAux, hd, Except.ok.injEq] at hf
  subst hf
  refine ⟨?_, List.append_nil _, List.append_nil _⟩
  simp only [List.append_nil]
  exact uniques_of_nodup (refs_nodup g d _ g1 p hd)

/-! ### non-vacuity -/
def fwd : RefElem := RefElem.mk [(kReferenceType, "i=47".toList)] (some "i=2 ".toList)
def inv : RefElem := RefElem.mk [(kReferenceType, "HasComponent".toList), (kIsForward, kFalse)] (some "i=1".toList)
/-- declared forward on the source (literal type, trailing blank) and inverse on the target (alias):
    one and the same triple -/
example : parseRef (nsMapOf []) [("HasComponent".toList, ⟨0, .i, "47".toList⟩)] ⟨0, .i, "1".toList⟩ fwd =
    parseRef (nsMapOf []) [("HasComponent".toList, ⟨0, .i, "47".toList⟩)] ⟨0, .i, "2".toList⟩ inv := by decide +kernel

end Opcua.C02
