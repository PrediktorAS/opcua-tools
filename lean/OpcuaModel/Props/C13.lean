import OpcuaModel.Model.Graph
import OpcuaModel.Props.C12
/-! # C13 — relatives and node paths enumerate exactly the walks of the graph. -/
namespace Opcua.C13
open Opcua Relation

/-- a node sequence (stored end first) is a walk from `s` with `n` edges -/
inductive Walk (E : List Edge) (s : Nat) : Nat → List Nat → Prop
  | nil : Walk E s 0 [s]
  | snoc {n p e t} : Walk E s n (e :: p) → (e, t) ∈ E → Walk E s (n+1) (t :: e :: p)

theorem mem_extend {E : List Edge} {rows : List (List Nat)} {q : List Nat} :
    q ∈ extendRows E rows ↔ ∃ e p t, (e :: p) ∈ rows ∧ (e, t) ∈ E ∧ q = t :: e :: p := by
  simp only [extendRows, List.mem_flatMap]
  constructor
  · rintro ⟨_ | ⟨e, p⟩, hp, hq⟩
    · cases hq
    · obtain ⟨⟨_, t⟩, hf, rfl⟩ := List.mem_map.1 hq
      obtain ⟨het, he⟩ := List.mem_filter.1 hf
      cases of_decide_eq_true he
      exact ⟨_, p, t, hp, het, rfl⟩
  · rintro ⟨e, p, t, hp, het, rfl⟩
    exact ⟨e :: p, hp, List.mem_map.2 ⟨(e, t), List.mem_filter.2 ⟨het, decide_eq_true rfl⟩, rfl⟩⟩

/-- rows of level n are exactly the walks with n edges from a start node -/
def LevelOK (E : List Edge) (starts : List Nat) (n : Nat) (rows : List (List Nat)) : Prop :=
  ∀ q, q ∈ rows ↔ ∃ s ∈ starts, Walk E s n q

theorem levelOK_zero (E : List Edge) (starts : List Nat) :
    LevelOK E starts 0 (starts.map fun s => [s]) := by
  intro q
  simp only [List.mem_map]
  constructor
  · rintro ⟨s, hs, rfl⟩; exact ⟨s, hs, Walk.nil⟩
  · rintro ⟨s, hs, hw⟩; cases hw; exact ⟨s, hs, rfl⟩

theorem levelOK_succ {E : List Edge} {starts : List Nat} {n : Nat} {rows : List (List Nat)}
    (h : LevelOK E starts n rows) : LevelOK E starts (n+1) (extendRows E rows) := by
  intro q
  rw [mem_extend]
  constructor
  · rintro ⟨e, p, t, hp, het, rfl⟩
    obtain ⟨s, hs, hw⟩ := (h _).1 hp
    exact ⟨s, hs, Walk.snoc hw het⟩
  · rintro ⟨s, hs, hw⟩
    cases hw with
    | snoc hw' het => exact ⟨_, _, _, (h _).2 ⟨s, hs, hw'⟩, het, rfl⟩

theorem walk_length {E s n q} (h : Walk E s n q) : q.length = n + 1 := by
  induction h with
  | nil => rfl
  | snoc _ _ ih => simp [ih]

theorem mem_levels {E : List Edge} {starts : List Nat} (k n : Nat) (rows : List (List Nat))
    (h : LevelOK E starts n rows) (q : List Nat) :
    q ∈ (levels E k rows).flatten ↔ ∃ m, n ≤ m ∧ m ≤ n + k ∧ ∃ s ∈ starts, Walk E s m q := by
  induction k generalizing n rows with
  | zero =>
    simp only [levels, List.flatten_cons, List.flatten_nil, List.append_nil, Nat.add_zero, h q]
    constructor
    · intro r; exact ⟨n, Nat.le_refl _, Nat.le_refl _, r⟩
    · rintro ⟨m, h1, h2, r⟩; exact Nat.le_antisymm h2 h1 ▸ r
  | succ k ih =>
    simp only [levels, List.flatten_cons, List.mem_append]
    rw [ih (n+1) (extendRows E rows) (levelOK_succ h), h q]
    constructor
    · rintro (r | ⟨m, h1, h2, r⟩)
      · exact ⟨n, Nat.le_refl _, by omega, r⟩
      · exact ⟨m, by omega, by omega, r⟩
    · rintro ⟨m, h1, h2, r⟩
      by_cases e : m = n
      · subst e; exact Or.inl r
      · exact Or.inr ⟨m, by omega, by omega, r⟩

/-- **C13 (rows are walks)**: a row is produced iff it is the node sequence of a walk of at most
    `cutoff` edges leaving a start node; by `walk_length` its `len_path` (length − 1) is the number
    of edges, its head the end node, its last element the start node. Each start node gives the
    length-0 row `[s]`. -/
theorem findRelatives_iff (E : List Edge) (starts : List Nat) (cutoff : Nat) (q : List Nat) :
    q ∈ findRelatives E starts cutoff ↔ ∃ m ≤ cutoff, ∃ s ∈ starts, Walk E s m q := by
  unfold findRelatives
  rw [mem_levels cutoff 0 _ (levelOK_zero E starts)]
  constructor
  · rintro ⟨m, _, h2, r⟩; exact ⟨m, by omega, r⟩
  · rintro ⟨m, h, r⟩; exact ⟨m, Nat.zero_le _, by omega, r⟩

theorem walk_last {E s n q} (h : Walk E s n q) : q.getLast? = some s := by
  induction h with
  | nil => rfl
  | snoc _ _ ih => simpa using ih

/-- ancestors are descendants in the flipped graph (the code only swaps the join columns) -/
theorem flip_mem (E : List Edge) (a b : Nat) : (a, b) ∈ flipEdges E ↔ (b, a) ∈ E := by
  simp [flipEdges, Prod.exists, and_comm]

/-! ### multiplicity (count form): parallel edges give parallel rows -/

/-- number of edge sequences realising a node sequence (stored end first) -/
def mult (E : List Edge) : List Nat → Nat
  | t :: e :: p => E.count (e, t) * mult E (e :: p)
  | _ => 1

theorem extendRows_cons (E : List Edge) (e : Nat) (p : List Nat) (rows : List (List Nat)) :
    extendRows E ((e :: p) :: rows) =
      ((E.filter fun ed => ed.1 = e).map fun ed => ed.2 :: e :: p) ++ extendRows E rows := rfl

theorem extendRows_nil_cons (E : List Edge) (rows : List (List Nat)) :
    extendRows E ([] :: rows) = extendRows E rows := rfl

/-- the extensions of one row `e' :: r'`: each copy of the edge `(e', t)` gives one copy of `t :: e' :: r'` -/
theorem count_extend_row (E : List Edge) (e' e t : Nat) (r' r : List Nat) :
    ((E.filter fun ed => ed.1 = e').map fun ed => ed.2 :: e' :: r').count (t :: e :: r) =
      if e' :: r' = e :: r then E.count (e, t) else 0 := by
  simp only [List.count, List.countP_map, List.countP_filter]
  split
  · next h =>
    injection h with he hr
    subst he hr
    refine List.countP_congr fun ed _ => ?_
    obtain ⟨a, b⟩ := ed
    simp [and_comm]
  · next h =>
    rw [List.countP_eq_zero]
    intro ed _
    simp only [Function.comp, Bool.and_eq_true, beq_iff_eq, List.cons.injEq, decide_eq_true_eq, not_and]
    rintro ⟨_, he, hr⟩
    exact absurd (by rw [he, hr]) h

theorem count_extend (E : List Edge) (rows : List (List Nat)) (t e : Nat) (p : List Nat) :
    (extendRows E rows).count (t :: e :: p) = rows.count (e :: p) * E.count (e, t) := by
  induction rows with
  | nil => simp [extendRows]
  | cons r rows ih =>
    cases r with
    | nil => rw [extendRows_nil_cons, ih, List.count_cons_of_ne (by simp)]
    | cons e' p' =>
      rw [extendRows_cons, List.count_append, count_extend_row, ih, List.count_cons]
      simp only [beq_iff_eq]
      by_cases h : e' :: p' = e :: p
      · rw [if_pos h, if_pos h, Nat.add_mul, Nat.one_mul, Nat.add_comm]
      · rw [if_neg h, if_neg h, Nat.zero_add, Nat.add_zero]

/-- level n holds every n-edge node sequence with multiplicity (#its start in `starts`) × (#edge
    sequences realising it); a row of length `n + 1` has a last element, so the default of `getD 0` is never used -/
def LevelCount (E : List Edge) (starts : List Nat) (n : Nat) (rows : List (List Nat)) : Prop :=
  ∀ q, rows.count q = if q.length = n + 1 then starts.count (q.getLast?.getD 0) * mult E q else 0

theorem levelCount_zero (E : List Edge) (starts : List Nat) :
    LevelCount E starts 0 (starts.map fun s => [s]) := by
  intro q
  rw [List.count, List.countP_map]
  match q with
  | [x] => simp [mult, List.count, Function.comp_def]
  | [] => simp [List.countP_eq_zero]
  | _ :: _ :: _ => simp [List.countP_eq_zero]

theorem levelCount_succ {E : List Edge} {starts : List Nat} {n : Nat} {rows : List (List Nat)}
    (h : LevelCount E starts n rows) : LevelCount E starts (n+1) (extendRows E rows) := by
  intro q
  match q with
  -- an extended row has at least two nodes
  | [] | [_] => simp [List.count_eq_zero, mem_extend]
  | t :: e :: p =>
    rw [count_extend, h (e :: p)]
    simp only [List.length_cons, Nat.add_right_cancel_iff, List.getLast?_cons_cons, mult]
    split
    · rw [Nat.mul_assoc, Nat.mul_comm (mult E (e :: p))]
    · rw [Nat.zero_mul]

theorem count_levels {E : List Edge} {starts : List Nat} (k n : Nat) (rows : List (List Nat))
    (h : LevelCount E starts n rows) (q : List Nat) :
    (levels E k rows).flatten.count q =
      if n + 1 ≤ q.length ∧ q.length ≤ n + k + 1 then starts.count (q.getLast?.getD 0) * mult E q else 0 := by
  induction k generalizing n rows with
  | zero =>
    simp only [levels, List.flatten_cons, List.flatten_nil, List.append_nil, Nat.add_zero, h q]
    exact if_congr (by omega) rfl rfl
  | succ k ih =>
    simp only [levels, List.flatten_cons, List.count_append]
    rw [ih (n+1) (extendRows E rows) (levelCount_succ h), h q]
    -- a row of `n + 1` nodes is counted at level `n` and at no later level
    by_cases e : q.length = n + 1
    · rw [if_pos e, if_neg (by omega), if_pos (by omega), Nat.add_zero]
    · rw [if_neg e, Nat.zero_add]
      exact if_congr (by omega) rfl rfl

/-- **C13 (count form)**: "one row per walk" — a node sequence of k ≤ cutoff edges appears as many
    times as there are (start occurrence, edge sequence) pairs realising it; parallel edges are
    distinct walks. Anything longer than the cut-off does not appear. -/
theorem findRelatives_count (E : List Edge) (starts : List Nat) (cutoff : Nat) (q : List Nat) :
    (findRelatives E starts cutoff).count q =
      if 1 ≤ q.length ∧ q.length ≤ cutoff + 1 then starts.count (q.getLast?.getD 0) * mult E q else 0 := by
  unfold findRelatives
  rw [count_levels cutoff 0 _ (levelCount_zero E starts)]
  simp

/-! ### acyclic input: the walk length is bounded, so "no cut-off" is a finite enumeration -/

def Acyclic (E : List Edge) : Prop := ∀ a, ¬ TransGen (C12.edge E) a a

theorem walk_reaches_end {E s n q} (h : Walk E s n q) :
    ∀ x ∈ q, ∀ e ∈ q.head?, ReflTransGen (C12.edge E) x e := by
  induction h with
  | nil => simpa using ReflTransGen.refl
  | snoc hw het ih =>
    rintro x hx _ ⟨⟩
    rcases List.mem_cons.1 hx with rfl | hx
    · exact .refl
    · exact (ih x hx _ rfl).tail het

theorem walk_nodup {E s n q} (hac : Acyclic E) (h : Walk E s n q) : q.Nodup := by
  induction h with
  | nil => simp
  | @snoc n p e t hw het ih =>
    refine List.nodup_cons.2 ⟨fun hmem => ?_, ih⟩
    exact hac t (TransGen.tail' (walk_reaches_end hw t hmem e rfl) het)

-- `n = 0`: a start node need not occur in any edge
theorem walk_subset_verts {E s n q} (h : Walk E s n q) : n = 0 ∨ ∀ x ∈ q, x ∈ verts E := by
  induction h with
  | nil => exact .inl rfl
  | snoc hw het ih =>
    refine .inr fun x hx => ?_
    rcases List.mem_cons.1 hx with rfl | hx
    · exact (C12.mem_verts het).2
    · rcases ih with rfl | ih
      · cases hw
        rw [List.mem_singleton.1 hx]
        exact (C12.mem_verts het).1
      · exact ih x hx

/-- **dag_terminates**: on acyclic edges no walk has more than `|V| − 1` edges, so the level loop
    of `find_relatives` stops by itself and `cutoff = None` enumerates *all* walks. -/
theorem dag_walk_bound {E s n q} (hac : Acyclic E) (h : Walk E s (n+1) q) : n + 2 ≤ (verts E).length := by
  have hl := walk_length h
  have hs := (walk_subset_verts h).resolve_left (Nat.succ_ne_zero n)
  have := (List.subperm_of_subset (walk_nodup hac h) hs).length_le
  omega

theorem findRelativesNoCutoff_iff (E : List Edge) (hac : Acyclic E) (starts : List Nat) (q : List Nat) :
    q ∈ findRelativesNoCutoff E starts ↔ ∃ m, ∃ s ∈ starts, Walk E s m q := by
  unfold findRelativesNoCutoff
  rw [findRelatives_iff]
  constructor
  · rintro ⟨m, _, r⟩; exact ⟨m, r⟩
  · rintro ⟨m, s, hs, hw⟩
    refine ⟨m, ?_, s, hs, hw⟩
    cases m with
    | zero => omega
    | succ k => have := dag_walk_bound hac hw; omega

/-- **node paths**: every row is either the root with `name/`, or the end node of a walk of ≥ 1
    edges from the root together with the browse names along that walk (root included) joined by
    `/`; and every such walk gives a row. When the edges form a tree below the root there is one
    walk, hence one row, per node. -/
theorem nodePaths_iff (E : List Edge) (hac : Acyclic E) (root : Nat) (name : Nat → Str) (x : Nat) (s : Str) :
    (x, s) ∈ nodePaths E root name ↔
      (x = root ∧ s = name root ++ ['/']) ∨
      ∃ m q, Walk E root (m+1) q ∧ q.head? = some x ∧ s = joinSlash (q.reverse.map name) := by
  simp only [nodePaths, List.mem_append, List.mem_filterMap, List.mem_singleton, Prod.mk.injEq]
  constructor
  · rintro (⟨q, hq, hm⟩ | ⟨rfl, rfl⟩)
    · right
      obtain ⟨m, s0, hs0, hw⟩ := (findRelativesNoCutoff_iff E hac [root] q).1 hq
      cases List.mem_singleton.1 hs0
      cases hw with
      | nil => simp at hm
      | snoc hw' het =>
        simp only [Option.some.injEq, Prod.mk.injEq] at hm
        obtain ⟨rfl, rfl⟩ := hm
        exact ⟨_, _, .snoc hw' het, rfl, rfl⟩
    · exact Or.inl ⟨rfl, rfl⟩
  · rintro (⟨rfl, rfl⟩ | ⟨m, q, hw, hh, rfl⟩)
    · exact Or.inr ⟨rfl, rfl⟩
    · left
      refine ⟨q, (findRelativesNoCutoff_iff E hac [root] q).2 ⟨m+1, root, by simp, hw⟩, ?_⟩
      cases hw with
      | snoc hw' het => simp at hh; subst hh; rfl

/-! ### non-vacuity -/
example : findRelatives [(1,2),(1,3),(2,4),(3,4),(2,4)] [1] 2 =
    [[1], [2, 1], [3, 1], [4, 2, 1], [4, 2, 1], [4, 3, 1]] := by decide
example : Walk [(1,2),(2,4)] 1 2 [4, 2, 1] := Walk.snoc (Walk.snoc Walk.nil (by simp)) (by simp)
example : (findRelatives [(1,2),(2,4),(2,4)] [1] 5).count [4, 2, 1] = 2 := by decide

end Opcua.C13
