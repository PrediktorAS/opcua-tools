import OpcuaModel.Model.Parse
import OpcuaModel.Lemmas.List
/-! # C04 — integer-id normalisation is a consistent bijection with NodeIds. -/
namespace Opcua.C04
open Opcua

/-- **uniques_nodup**: the lookup table holds every NodeId once (id ↦ NodeId is injective) -/
theorem lookup_nodup (nodes : List NodeRow) (refs : List Triple) : (normalize nodes refs).lookup.Nodup :=
  nodup_uniques _

/-- **code_roundtrip**: every NodeId that occurs anywhere gets an id, and the lookup table maps
    the id back to exactly that NodeId -/
theorem code_roundtrip {α} [DecidableEq α] (l : List α) (a : α) (h : a ∈ l) :
    ∃ i, code (uniques l) a = some i ∧ (uniques l)[i]? = some a :=
  have hm : a ∈ uniques l := (mem_uniques l a).2 h
  ⟨(uniques l).idxOf a, if_pos hm, getElem?_idxOf hm⟩

/-- a code only ever denotes the NodeId it was computed from -/
theorem code_sound {α} [DecidableEq α] (us : List α) (a : α) (i : Nat) (h : code us a = some i) :
    us[i]? = some a := by
  unfold code at h
  split at h
  · next hm => cases h; exact getElem?_idxOf hm
  · cases h

/-- **code_injective**: two NodeIds with the same id are the same NodeId -/
theorem code_injective {α} [DecidableEq α] (us : List α) (a b : α) (i : Nat)
    (ha : code us a = some i) (hb : code us b = some i) : a = b :=
  Option.some.inj ((code_sound us a i ha).symm.trans (code_sound us b i hb))

theorem mem_allIds {nodes : List NodeRow} {refs : List Triple} {n : NodeId} :
    n ∈ allIds nodes refs ↔
      (∃ r ∈ nodes, r.nodeId = n ∨ r.parent = some n ∨ r.dataType = some n ∨ r.methodDecl = some n) ∨
      (∃ t ∈ refs, t.1 = n ∨ t.2.1 = n ∨ t.2.2 = n) := by
  simp only [allIds, List.mem_append, List.mem_map, List.mem_filterMap, and_or_left, exists_or, or_assoc]

theorem code_of_mem_allIds {nodes : List NodeRow} {refs : List Triple} {n : NodeId} (h : n ∈ allIds nodes refs) :
    ∃ i, code (normalize nodes refs).lookup n = some i ∧ (normalize nodes refs).lookup[i]? = some n :=
  code_roundtrip _ _ h

/-- **id_of_row**: every node row has an id, and the lookup entry of that id is the row's NodeId -/
theorem id_of_row (nodes : List NodeRow) (refs : List Triple) (r : NodeRow) (h : r ∈ nodes) :
    ∃ i, code (normalize nodes refs).lookup r.nodeId = some i ∧
      (normalize nodes refs).lookup[i]? = some r.nodeId :=
  code_of_mem_allIds (mem_allIds.2 (.inl ⟨r, h, .inl rfl⟩))

/-- **rows_ids_injective**: rows with distinct NodeIds get distinct ids (two node elements that
    declare the *same* NodeId share an id — in the real code as well) -/
theorem rows_ids_injective (nodes : List NodeRow) (refs : List Triple) (r s : NodeRow) (i : Nat)
    (hr : code (normalize nodes refs).lookup r.nodeId = some i)
    (hs : code (normalize nodes refs).lookup s.nodeId = some i) : r.nodeId = s.nodeId :=
  code_injective _ _ _ i hr hs

/-- **denormalize ∘ normalize** on the reference table: replacing the three ids of a row by their
    lookup entries gives back exactly the triple the documents named -/
theorem refs_denormalize (nodes : List NodeRow) (refs : List Triple) (t : Triple) (h : t ∈ refs) :
    ∃ a b c, (code (normalize nodes refs).lookup t.1 = some a ∧ (normalize nodes refs).lookup[a]? = some t.1) ∧
      (code (normalize nodes refs).lookup t.2.1 = some b ∧ (normalize nodes refs).lookup[b]? = some t.2.1) ∧
      (code (normalize nodes refs).lookup t.2.2 = some c ∧ (normalize nodes refs).lookup[c]? = some t.2.2) := by
  obtain ⟨a, ha⟩ := code_of_mem_allIds (mem_allIds.2 (.inr ⟨t, h, .inl rfl⟩))
  obtain ⟨b, hb⟩ := code_of_mem_allIds (mem_allIds.2 (.inr ⟨t, h, .inr (.inl rfl)⟩))
  obtain ⟨c, hc⟩ := code_of_mem_allIds (mem_allIds.2 (.inr ⟨t, h, .inr (.inr rfl)⟩))
  exact ⟨a, b, c, ha, hb, hc⟩

/-- the node-reference columns: a present attribute becomes an id whose lookup entry is the NodeId
    the document named … -/
theorem attr_denormalize (nodes : List NodeRow) (refs : List Triple) (r : NodeRow) (h : r ∈ nodes)
    (n : NodeId) :
    (r.parent = some n → ∃ i, r.parent.bind (code (normalize nodes refs).lookup) = some i ∧
        (normalize nodes refs).lookup[i]? = some n) ∧
    (r.dataType = some n → ∃ i, r.dataType.bind (code (normalize nodes refs).lookup) = some i ∧
        (normalize nodes refs).lookup[i]? = some n) ∧
    (r.methodDecl = some n → ∃ i, r.methodDecl.bind (code (normalize nodes refs).lookup) = some i ∧
        (normalize nodes refs).lookup[i]? = some n) := by
  -- a present column `o = some n` is coded as `n` itself, and `n` is one of the ids
  have key : ∀ o : Option NodeId, o = some n → n ∈ allIds nodes refs →
      ∃ i, o.bind (code (normalize nodes refs).lookup) = some i ∧ (normalize nodes refs).lookup[i]? = some n := by
    rintro _ rfl m
    rw [Option.bind_some]
    exact code_of_mem_allIds m
  exact ⟨fun hp => key _ hp (mem_allIds.2 (.inl ⟨r, h, .inr (.inl hp)⟩)),
    fun hp => key _ hp (mem_allIds.2 (.inl ⟨r, h, .inr (.inr (.inl hp))⟩)),
    fun hp => key _ hp (mem_allIds.2 (.inl ⟨r, h, .inr (.inr (.inr hp))⟩))⟩

/-- … **absent_stays_absent**: and an attribute the element does not have is never turned into an id -/
theorem absent_stays_absent (us : List NodeId) (r : NodeRow) :
    (r.parent = none → r.parent.bind (code us) = none) ∧
    (r.dataType = none → r.dataType.bind (code us) = none) ∧
    (r.methodDecl = none → r.methodDecl.bind (code us) = none) := by
  refine ⟨?_, ?_, ?_⟩ <;> intro h <;> rw [h] <;> rfl

/-- the tables keep their shape: one id row per node row, one id triple per reference -/
theorem shape (nodes : List NodeRow) (refs : List Triple) :
    (normalize nodes refs).nodeIds.length = nodes.length ∧ (normalize nodes refs).refs.length = refs.length := by
  simp [normalize]

/-! ### non-vacuity -/
example : code (uniques [3, 5, 3, 7]) 7 = some 2 := by decide
example : (uniques [3, 5, 3, 7])[2]? = some 7 := by decide

end Opcua.C04
