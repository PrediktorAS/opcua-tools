import OpcuaModel.Model.Write
import OpcuaModel.Lemmas.List
/-! # C06 — a written NodeSet denotes exactly the requested namespace's part of the graph. -/
namespace Opcua.C06
open Opcua

/-! ### the `sorted(…)` behind `namespacesInUse`, as far as `idxOf_one` needs it: namespace 1 sits at position 1 -/

def Sorted : List Int → Prop
  | [] => True
  | [_] => True
  | a :: b :: r => a ≤ b ∧ Sorted (b :: r)

theorem sorted_cons {a : Int} {l : List Int} : Sorted (a :: l) ↔ (∀ x ∈ l, a ≤ x) ∧ Sorted l := by
  induction l generalizing a with
  | nil => simp [Sorted]
  | cons b r ih =>
    rw [Sorted, ih, List.forall_mem_cons]
    exact ⟨fun ⟨hab, hb, hr⟩ => ⟨⟨hab, fun x hx => Int.le_trans hab (hb x hx)⟩, hb, hr⟩,
      fun ⟨⟨hab, _⟩, hb, hr⟩ => ⟨hab, hb, hr⟩⟩

theorem perm_insertSorted (x : Int) (l : List Int) : (insertSorted x l).Perm (x :: l) := by
  induction l with
  | nil => exact .refl _
  | cons y ys ih =>
    unfold insertSorted
    split
    · exact .refl _
    · exact (ih.cons y).trans (.swap x y ys)

theorem perm_sortInts (l : List Int) : (sortInts l).Perm l := by
  induction l with
  | nil => exact .refl _
  | cons a as ih => exact (perm_insertSorted a _).trans (ih.cons a)

theorem sorted_insert (x : Int) (l : List Int) (h : Sorted l) : Sorted (insertSorted x l) := by
  induction l with
  | nil => trivial
  | cons a as ih =>
    obtain ⟨ha, has⟩ := sorted_cons.1 h
    unfold insertSorted
    split
    · next hle => exact ⟨hle, h⟩
    · next hgt =>
      refine sorted_cons.2 ⟨fun z hz => ?_, ih has⟩
      rcases List.mem_cons.1 ((perm_insertSorted x as).mem_iff.1 hz) with rfl | hz
      · omega
      · exact ha z hz

theorem sortInts_sorted (l : List Int) : Sorted (sortInts l) := by
  induction l with
  | nil => trivial
  | cons a as ih => exact sorted_insert a _ ih

theorem sorted_head_eq {a m : Int} {l : List Int} (hs : Sorted (a :: l)) (hm : m ∈ a :: l)
    (hmin : ∀ x ∈ a :: l, m ≤ x) : a = m := by
  refine Int.le_antisymm ?_ (hmin a List.mem_cons_self)
  rcases List.mem_cons.1 hm with rfl | hm
  · exact Int.le_refl _
  · exact (sorted_cons.1 hs).1 m hm

theorem idxOf_one (l : List Int) (hs : Sorted l) (hn : l.Nodup) (hpos : ∀ x ∈ l, 0 ≤ x) (h0 : (0 : Int) ∈ l) (h1 : (1 : Int) ∈ l) :
    l.idxOf (1 : Int) = 1 := by
  -- the list starts `0 :: 1 :: _`: 0 is the least element, and 1 the least of the rest
  match l, hs, hn, hpos, h0, h1 with
  | a :: l', hs, hn, hpos, h0, h1 =>
    obtain rfl := sorted_head_eq hs h0 hpos
    obtain ⟨h0', -⟩ := List.nodup_cons.1 hn
    match l', (List.mem_cons.1 h1).resolve_left (by decide) with
    | b :: r, h1' =>
      obtain rfl := sorted_head_eq (sorted_cons.1 hs).2 h1' fun x hx => by
        have := hpos x (List.mem_cons_of_mem _ hx)
        have : x ≠ 0 := fun e => h0' (e ▸ hx)
        omega
      rfl

theorem posOf_eq_some {l : List Int} {k p : Int} : posOf l k = some p ↔ k ∈ l ∧ p = ((l.idxOf k : Nat) : Int) := by
  unfold posOf
  split
  · next h => exact ⟨fun e => ⟨h, (Option.some.inj e).symm⟩, fun e => e.2 ▸ rfl⟩
  · next h => exact ⟨nofun, fun e => absurd e.1 h⟩

/-- **outgoing_filter_exact**: with the switch off, a reference is kept iff its target lies in the
    written namespace or its type is HasModellingRule / HasTypeDefinition — nothing else is dropped,
    nothing is added -/
theorem outgoing_filter_exact (g : Graph) (idx : Nat) (hmr htd : Nat)
    (h1 : typeIdByName g.nodes kHMR = some hmr)
    (h2 : typeIdByName g.nodes kHTD = some htd) (r : Nat × Nat × Nat) :
    ∃ kept, dropOutgoing g idx = .ok kept ∧
      (r ∈ kept ↔ r ∈ g.refs ∧ ((∃ n ∈ g.nodes, n.nodeId.ns = (idx : Int) ∧ n.id = r.2.1) ∨ r.2.2 = hmr ∨ r.2.2 = htd)) := by
  refine ⟨_, by rw [dropOutgoing, h1, h2], ?_⟩
  simp only [List.mem_filter, Bool.or_eq_true, List.contains_iff_mem, List.mem_map, decide_eq_true_eq,
    or_assoc, and_assoc]

/-- inversion of a successful `createNodeset` -/
theorem createNodeset_inv (ns : List Str) (nodes : List GNode) (refs : List (Nat × Nat × Nat)) (models : List ModelElem)
    (d : WDoc) (h : createNodeset ns nodes refs models = .ok d) :
    let inUse := namespacesInUse nodes refs
    let tbl := lookupTable inUse nodes
    let wids := (writtenNodes inUse nodes).filterMap fun n => (lookupNid tbl n.id).map NodeId.print
    d.nodes = (writtenNodes inUse nodes).map (wnodeOf inUse tbl (refs.map (placeRef wids tbl))) ∧
    (inUse.filterMap fun k => if k < 0 then none else ns[k.toNat]?)[1]? = some d.modelUri ∧
    d.uris = (inUse.filterMap fun k => if k < 0 then none else ns[k.toNat]?).drop 1 := by
  unfold createNodeset at h
  simp only at h
  split at h
  · cases h
  · next mu hmu => cases h; exact ⟨rfl, hmu, rfl⟩

/-- **nodes_exact**: the document declares one element per graph row whose namespace is the one
    written (position 1 of the in-use list), in the rows' order — none invented, none dropped, none
    twice (the rows are a sub-list of the graph's rows) -/
theorem nodes_exact (ns : List Str) (nodes : List GNode) (refs : List (Nat × Nat × Nat)) (models : List ModelElem)
    (d : WDoc) (h : createNodeset ns nodes refs models = .ok d) :
    d.nodes.length = (writtenNodes (namespacesInUse nodes refs) nodes).length ∧
    (writtenNodes (namespacesInUse nodes refs) nodes).Sublist nodes ∧
    ∀ n, n ∈ writtenNodes (namespacesInUse nodes refs) nodes ↔
      n ∈ nodes ∧ posOf (namespacesInUse nodes refs) n.nodeId.ns = some 1 := by
  obtain ⟨hn, _, _⟩ := createNodeset_inv ns nodes refs models d h
  refine ⟨by rw [hn]; simp, List.filter_sublist, fun n => ?_⟩
  simp [writtenNodes]

/-- **the written namespace is U**: when the namespaces in use include 0 (something of the base
    namespace is used) and 1 (U owns a node), the rows written are exactly those of remapped
    namespace 1 — i.e. of U. (`0 ∈ inUse` is the hypothesis the proof forces; the real code fails at
    the excluded point, finding D-C06b.) -/
theorem position_one_is_U (nodes : List GNode) (refs : List (Nat × Nat × Nat))
    (hpos : ∀ x ∈ namespacesInUse nodes refs, 0 ≤ x) (h0 : (0 : Int) ∈ namespacesInUse nodes refs)
    (h1 : (1 : Int) ∈ namespacesInUse nodes refs) (k : Int) :
    posOf (namespacesInUse nodes refs) k = some 1 ↔ k = 1 := by
  have hs : Sorted (namespacesInUse nodes refs) := sortInts_sorted _
  have hn : (namespacesInUse nodes refs).Nodup := (perm_sortInts _).nodup_iff.2 (nodup_uniques _)
  have hi := idxOf_one _ hs hn hpos h0 h1
  rw [posOf_eq_some]
  constructor
  · rintro ⟨hk, e⟩
    -- `k` and 1 sit at the same position, so they are the same entry
    have e' : (namespacesInUse nodes refs).idxOf k = (namespacesInUse nodes refs).idxOf 1 := by omega
    exact Option.some.inj (by rw [← getElem?_idxOf hk, e', getElem?_idxOf h1])
  · rintro rfl
    exact ⟨h1, by rw [hi]; rfl⟩

/-- **references are placed once, on the right node, in the right direction**: every reference of
    the (filtered) table is written on its target as an inverse if the target is written, otherwise
    on its source as a forward reference; a node's Reference children are exactly the references
    whose owner text is its NodeId -/
theorem refs_placed (ns : List Str) (nodes : List GNode) (refs : List (Nat × Nat × Nat)) (models : List ModelElem)
    (d : WDoc) (h : createNodeset ns nodes refs models = .ok d) :
    let inUse := namespacesInUse nodes refs
    let tbl := lookupTable inUse nodes
    let wids := (writtenNodes inUse nodes).filterMap fun n => (lookupNid tbl n.id).map NodeId.print
    ∀ n ∈ writtenNodes inUse nodes, ∀ w : WRef,
      w ∈ (wnodeOf inUse tbl (refs.map (placeRef wids tbl)) n).refs ↔
        ∃ r ∈ refs, placeRef wids tbl r = (((lookupNid tbl n.id).getD n.nodeId).print, w) := by
  intro inUse tbl wids n _ w
  simp only [wnodeOf, List.mem_map, List.mem_filter, decide_eq_true_eq]
  constructor
  · rintro ⟨p, ⟨⟨r, hr, rfl⟩, hp⟩, rfl⟩
    exact ⟨r, hr, by rw [← hp]⟩
  · rintro ⟨r, hr, he⟩
    exact ⟨placeRef wids tbl r, ⟨⟨r, hr, rfl⟩, by rw [he]⟩, by rw [he]⟩

/-- a reference touches the document iff one of its end points is written; it is an inverse on the
    target exactly when the target is written -/
theorem placeRef_owner (wids : List Str) (tbl : List (Nat × NodeId)) (r : Nat × Nat × Nat) :
    ((placeRef wids tbl r).1 ∈ wids ↔ refText tbl r.2.1 ∈ wids ∨ refText tbl r.1 ∈ wids) ∧
    ((placeRef wids tbl r).2.forward = false ↔ refText tbl r.2.1 ∈ wids) := by
  by_cases hm : refText tbl r.2.1 ∈ wids <;> simp [placeRef, hm]

/-- **ids_resolve**: every NodeId in the lookup table carries a namespace index that is a position
    of the in-use list, and the document's own table maps that position back to the namespace the
    node has in the graph -/
theorem ids_resolve (ns : List Str) (inUse : List Int) (nodes : List GNode) (i : Nat) (n : NodeId)
    (h : lookupNid (lookupTable inUse nodes) i = some n) :
    ∃ g ∈ nodes, ∃ p : Nat, n = setNs g.nodeId (p : Int) ∧ inUse[p]? = some g.nodeId.ns := by
  have hm := mem_of_lookup h
  simp only [lookupTable, List.mem_filterMap] at hm
  obtain ⟨g, hg, he⟩ := hm
  cases hp : posOf inUse g.nodeId.ns with
  | none => rw [hp] at he; cases he
  | some p =>
    rw [hp] at he
    cases he
    obtain ⟨hk, rfl⟩ := posOf_eq_some.1 hp
    exact ⟨g, hg, inUse.idxOf g.nodeId.ns, rfl, getElem?_idxOf hk⟩

/-! ### non-vacuity -/
-- the hypotheses of `idxOf_one` can be met (the equation itself holds by proof irrelevance)
example : idxOf_one [0, 1, 3] (by simp [Sorted]) (by decide) (by decide) (by decide) (by decide) = rfl := rfl
example : sortInts [3, 0, 1] = [0, 1, 3] := by decide

end Opcua.C06
