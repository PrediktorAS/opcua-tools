import OpcuaModel.Lemmas.Parse
import OpcuaModel.Props.C03
/-! # C01 — every declared node becomes exactly one faithful row of the nodes table. -/
namespace Opcua.C01
open Opcua

/-- **rows_length / one row per element**: a successful parse yields exactly one row per node
    element, in document order, and row i is computed from element i alone -/
theorem rows_pointwise (g : List Str) (d : Doc) (k : Nat) (g1 : List Str) (p : ParsedDoc)
    (h : parseDoc g d k = .ok (g1, p)) :
    p.nodes.length = d.nodes.length ∧
    ∃ al, aliasTable (nsMapOf (extendNs (withUA g) d.uris).2) d.aliases = .ok al ∧
      List.Forall₂ (fun e r => parseNode (nsMapOf (extendNs (withUA g) d.uris).2) al e = .ok r) d.nodes p.nodes := by
  obtain ⟨al, rows, trips, hal, _, hrows, _, _, rfl⟩ := parseDoc_inv h
  exact ⟨mapE_ok_length hrows, al, hal, mapE_ok_forall hrows⟩

/-- **batch_invariant**: the result does not depend on the parser's internal batch size —
    documents larger than a batch are parsed exactly like small ones -/
theorem batch_invariant (g : List Str) (d : Doc) (k k' : Nat) : parseDoc g d k = parseDoc g d k' := by
  rw [parseDoc_eq, parseDoc_eq g d k']

/-- inversion of a successful `parseNode`: which element data each field of the row comes from -/
theorem row_fields (nsmap : List (Int × Int)) (al : List (Str × NodeId)) (e : NodeElem) (r : NodeRow)
    (h : parseNode nsmap al e = .ok r) :
    r.cls = e.cls ∧ r.display = firstText e.displayNames ∧ r.description = firstText e.descriptions ∧
    (∃ t, lookup kNodeId e.attrs = some t ∧ parseNodeId t nsmap (some al) = .ok r.nodeId) ∧
    optParse e.attrs kDataType nsmap al = .ok r.dataType ∧
    optParse e.attrs kParentNodeId nsmap al = .ok r.parent ∧
    optParse e.attrs kMethodDeclarationId nsmap al = .ok r.methodDecl ∧
    (∃ t k, lookup kBrowseName e.attrs = some t ∧ browseSplit t = .ok (k, r.browseName) ∧
        r.browseNs = lookup k nsmap) ∧
    mapE typedPair (e.attrs.filter fun p => !idAttrs.contains p.1) = .ok r.attrs ∧
    optDecode e.value = .ok r.value := by
  unfold parseNode at h
  split at h
  · cases h
  rename_i t hn
  split at h
  · cases h
  rename_i nid hp
  split at h
  · cases h
  rename_i dt hdt
  split at h
  · cases h
  rename_i pa hpa
  split at h
  · cases h
  rename_i md hmd
  split at h
  · cases h
  rename_i bt hb
  split at h
  · cases h
  rename_i bk bn hbs
  split at h
  · cases h
  rename_i others ho
  split at h
  · cases h
  rename_i val hv
  cases h
  exact ⟨rfl, rfl, rfl, ⟨t, hn, hp⟩, hdt, hpa, hmd, ⟨bt, bk, hb, hbs, rfl⟩, ho, hv⟩

theorem typedPair_fst {p : Str × Str} {q : Str × AttrVal} (h : typedPair p = .ok q) : q.1 = p.1 := by
  unfold typedPair at h
  split at h
  · cases h
  · cases h; rfl

/-- **attributes the element has / does not have**: the row lists exactly the element's other
    attributes, in document order, none added and none dropped -/
theorem attrs_exact (nsmap : List (Int × Int)) (al : List (Str × NodeId)) (e : NodeElem) (r : NodeRow)
    (h : parseNode nsmap al e = .ok r) :
    r.attrs.map Prod.fst = (e.attrs.filter fun p => !idAttrs.contains p.1).map Prod.fst := by
  obtain ⟨_, _, _, _, _, _, _, _, hattrs, _⟩ := row_fields nsmap al e r h
  have ho := mapE_ok_forall hattrs
  exact (forall₂_map_eq (forall₂_imp ho fun _ _ hpq => (typedPair_fst hpq).symm)).symm

/-- **browse name, well-formed prefix**: `k:name` splits into namespace `k` and `name` … -/
theorem browse_split_partial (k : Int) (name : Str) (h : ':' ∉ name) :
    browseSplit (pyStrInt k ++ ':' :: name) = .ok (k, name) := by
  have hk : ':' ∉ pyStrInt k := not_mem_pyStrInt k (by decide) (by decide)
  rw [browseSplit, if_pos (List.mem_append_right _ List.mem_cons_self), splitAll_append ':' _ _ hk,
    splitAll_none ':' name h]
  simp only [pyIntE, pyInt_pyStrInt]
  rfl

/-- … and a name without prefix is namespace 0 -/
theorem browse_split_noprefix (name : Str) (h : ':' ∉ name) : browseSplit name = .ok (0, name) := by
  simp [browseSplit, h]

/-- the full statement ("everything after the first ':'") is false for the code as it is: a second
    ':' truncates the name (finding D-C01a) -/
theorem browse_split_fails_witness : browseSplit "1:a:b".toList = .ok (1, "a".toList) := by decide +kernel

/-- **trailing whitespace removed, nothing else**: `rstrip` only cuts a suffix of white space -/
theorem rstrip_spec (t : Str) : ∃ w, t = rstrip t ++ w ∧ ∀ c ∈ w, isSpace c = true := by
  refine ⟨(t.reverse.takeWhile isSpace).reverse, ?_, fun c hc => ?_⟩
  · rw [rstrip, ← List.reverse_append, List.takeWhile_append_dropWhile, List.reverse_reverse]
  · exact List.all_eq_true.1 List.all_takeWhile c (List.mem_reverse.1 hc)

/-- the first DisplayName / Description is the one reported; absent or empty gives `""` -/
theorem firstText_spec (l : List (Option Str)) :
    firstText l = match l.head? with | some (some t) => rstrip t | _ => [] := by
  cases l with
  | nil => rfl
  | cons a as => cases a <;> rfl

/-- **node-reference attributes denote the node the document named** (literal form): a DataType /
    ParentNodeId / MethodDeclarationId written as a NodeId with local index `k+1` resolves, through
    the global list, to the document's own k-th namespace URI. (The alias form is `C09.alias_first`
    composed with the same statement for the alias definition.) -/
theorem node_ref_attr_denotes (e uris : List Str) (al : List (Str × NodeId)) (attrs : List (Str × Str)) (key : Str)
    (n : NodeId) (k : Nat) (hk : k < uris.length) (hn : n.ns = ((k : Nat) : Int) + 1) (hv : n.Valid)
    (hattr : lookup key attrs = some n.print) (hal : lookup n.print al = none) :
    ∃ g : Nat, optParse attrs key (nsMapOf (extendNs e uris).2) al = .ok (some { n with ns := (g : Int) }) ∧
      (extendNs e uris).1[g]? = uris[k]? := by
  obtain ⟨g, h1, h2⟩ := C03.parsed_id_denotes e uris n k hk hn hv
  refine ⟨g, ?_, h2⟩
  unfold optParse
  have : parseNodeId n.print (nsMapOf (extendNs e uris).2) (some al) =
      parseNodeId n.print (nsMapOf (extendNs e uris).2) none := by
    simp [parseNodeId, hal]
  simp only [hattr, this, h1]

/-- an attribute the element does not have is reported as missing -/
theorem absent_attr_missing (attrs : List (Str × Str)) (key : Str) (nsmap : List (Int × Int))
    (al : List (Str × NodeId)) (h : lookup key attrs = none) : optParse attrs key nsmap al = .ok none := by
  simp [optParse, h]

/-- **typed Value**: the row's Value is what `parse_value` makes of the element's Value child — for a
    value written by the library's own encoder that is the value itself (C08 `tree_roundtrip`) -/
theorem value_is_decoded (nsmap : List (Int × Int)) (al : List (Str × NodeId)) (e : NodeElem) (r : NodeRow)
    (h : parseNode nsmap al e = .ok r) : optDecode e.value = .ok r.value := by
  obtain ⟨_, _, _, _, _, _, _, _, _, hvalue⟩ := row_fields nsmap al e r h
  exact hvalue

/-! ### non-vacuity: a concrete element satisfies the hypotheses -/
def demoElem : NodeElem :=
  { cls := "UAVariable".toList,
    attrs := [(kNodeId, "ns=1;s=a;b=c".toList), (kBrowseName, "1:Speed".toList),
              (kDataType, "Int32".toList), ("AccessLevel".toList, "3".toList)],
    displayNames := [some "Speed  ".toList, some "zweiter".toList], descriptions := [], refs := [] }

example : (parseNode (nsMapOf [4]) [("Int32".toList, ⟨0, .i, "6".toList⟩)] demoElem).map
      (fun r => (r.nodeId, r.browseName, r.browseNs, r.display)) =
    .ok (⟨4, .s, "a;b=c".toList⟩, "Speed".toList, some 4, "Speed".toList) := by decide +kernel
example : (parseNode (nsMapOf [4]) [("Int32".toList, ⟨0, .i, "6".toList⟩)] demoElem).map
      (fun r => (r.dataType, r.parent, r.attrs)) =
    .ok (some ⟨0, .i, "6".toList⟩, none, [("AccessLevel".toList, .int 3)]) := by decide +kernel

end Opcua.C01
