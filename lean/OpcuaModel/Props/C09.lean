import OpcuaModel.Model.NodeId
import OpcuaModel.Lemmas.Str
/-! # C09 — NodeId text is parsed and printed inversely, for every identifier. -/
namespace Opcua.C09
open Opcua

theorem IdType.ofStr_char (t : IdType) : IdType.ofStr [t.char] = some t := by cases t <;> rfl
theorem IdType.char_ne_eq (t : IdType) : t.char ≠ '=' := by cases t <;> decide
theorem IdType.char_not_space (t : IdType) : isSpace t.char = false := by cases t <;> decide

theorem IdType.ofStr_inv {t : Str} {ty : IdType} (h : IdType.ofStr t = some ty) : t = [ty.char] := by
  unfold IdType.ofStr at h
  split at h <;> simp at h <;> subst h <;> rfl

/-- the guard distinguishes the two printed forms exactly -/
theorem nsPrefixed_print (n : NodeId) : nsPrefixed (n.print) = decide (n.ns ≠ 0) := by
  unfold NodeId.print nsPrefixed
  by_cases h0 : n.ns = 0
  · simp [h0, lstrip_cons _ _ (IdType.char_not_space n.ty), startsWith]
  · have hsp : isSpace 'n' = false := by decide
    simp [h0, lstrip_cons _ _ hsp, startsWith]

/-- text level: for **every** namespace index, identifier type and identifier string,
    the split made by `cached_parse_nodeid` recovers exactly the three components. -/
theorem cachedParse_print (n : NodeId) : cachedParse n.print = .ok (n.ns, n.ty, n.ident) := by
  have h3 : split1 '=' (n.ty.char :: '=' :: n.ident) = ([n.ty.char], some n.ident) :=
    split1_append '=' [n.ty.char] n.ident (by simp [(IdType.char_ne_eq n.ty).symm])
  unfold cachedParse
  rw [nsPrefixed_print]
  by_cases h0 : n.ns = 0
  · simp [NodeId.print, h0, h3, IdType.ofStr_char]
  · have h1 : split1 ';' ('n' :: 's' :: '=' :: (pyStrInt n.ns ++ ';' :: n.ty.char :: '=' :: n.ident)) =
        ('n' :: 's' :: '=' :: pyStrInt n.ns, some (n.ty.char :: '=' :: n.ident)) :=
      split1_append ';' ('n' :: 's' :: '=' :: pyStrInt n.ns) _
        (by simp [not_mem_pyStrInt n.ns (c := ';') (by decide) (by decide)])
    have h2 : split1 '=' ('n' :: 's' :: '=' :: pyStrInt n.ns) = (['n', 's'], some (pyStrInt n.ns)) :=
      split1_append '=' ['n', 's'] (pyStrInt n.ns) (by decide)
    simp [NodeId.print, h0, h1, h2, h3, pyInt_pyStrInt, IdType.ofStr_char]

theorem mkNodeId_valid (n : NodeId) (h : n.Valid) (g : Int) :
    mkNodeId g n.ty n.ident = .ok { n with ns := g } := by
  unfold mkNodeId
  rw [if_neg]
  rintro ⟨ht, hv⟩
  rw [h ht] at hv
  cases hv

/-- **C09 round trip** — printing any NodeId the constructor accepts and parsing the text
    (no namespace map, no aliases) gives back the same NodeId. -/
theorem parse_print (n : NodeId) (h : n.Valid) : parseNodeId n.print [] none = .ok n := by
  simp only [parseNodeId, Option.bind_none, cachedParse_print, List.isEmpty_nil, if_true]
  exact mkNodeId_valid n h n.ns

/-- with a (non-empty) namespace map the result carries the mapped index … -/
theorem parse_mapped (n : NodeId) (m : List (Int × Int)) (hm : m ≠ []) (g : Int)
    (hg : lookup n.ns m = some g) (h : n.Valid) :
    parseNodeId n.print m none = .ok { n with ns := g } := by
  simp only [parseNodeId, Option.bind_none, cachedParse_print, List.isEmpty_iff, hm, if_false, hg]
  exact mkNodeId_valid n h g

/-- … and an index the map does not know is an error (`KeyError`), never a silent default. -/
theorem parse_unmapped (n : NodeId) (m : List (Int × Int)) (hm : m ≠ [])
    (hg : lookup n.ns m = none) : parseNodeId n.print m none = .error .keyError := by
  simp only [parseNodeId, Option.bind_none, cachedParse_print, List.isEmpty_iff, hm, if_false, hg]

/-- an alias name yields the aliased NodeId, whatever the text looks like -/
theorem alias_first (s : Str) (m : List (Int × Int)) (al : List (Str × NodeId)) (a : NodeId)
    (h : lookup s al = some a) : parseNodeId s m (some al) = .ok a := by
  simp [parseNodeId, h]

/-- **no misread (soundness)**: whatever `cached_parse_nodeid` accepts *is* a NodeId text of one of
    the two forms, with exactly the components it returns; everything else is rejected. -/
theorem no_misread (s : Str) (ns : Int) (ty : IdType) (v : Str)
    (h : cachedParse s = .ok (ns, ty, v)) :
    (nsPrefixed s = false ∧ ns = 0 ∧ s = ty.char :: '=' :: v) ∨
    (nsPrefixed s = true ∧ ∃ a k, s = a ++ '=' :: k ++ ';' :: ty.char :: '=' :: v ∧
        '=' ∉ a ∧ ';' ∉ a ++ '=' :: k ∧ pyInt k = some ns) := by
  unfold cachedParse at h
  split at h
  · next hp =>
    -- in the order of the code: split at `;`, split the head at `=`, `int()`, the tail, its split
    -- at `=`, the type letter
    split at h
    rename_i hd rest? hs1
    split at h
    · cases h
    rename_i a k hs2
    split at h
    · cases h
    rename_i hk
    split at h
    · cases h
    split at h
    · cases h
    rename_i t _ hs3
    split at h
    · cases h
    rename_i ht
    cases h
    obtain ⟨rfl, n1⟩ := split1_some_inv hs1
    obtain ⟨rfl, n2⟩ := split1_some_inv hs2
    obtain ⟨rfl, _⟩ := split1_some_inv hs3
    obtain rfl := IdType.ofStr_inv ht
    exact .inr ⟨hp, a, k, by simp, n2, n1, hk⟩
  · next hp =>
    split at h
    · next t _ hs1 =>
      split at h
      · cases h
      · next ht =>
        cases h
        obtain ⟨rfl, _⟩ := split1_some_inv hs1
        obtain rfl := IdType.ofStr_inv ht
        exact .inl ⟨by simpa using hp, rfl, rfl⟩
    · cases h

theorem valid_of_mkNodeId {ns : Int} {ty : IdType} {v : Str} {n : NodeId} (h : mkNodeId ns ty v = .ok n) :
    n.Valid := by
  unfold mkNodeId at h
  split at h
  · cases h
  · next hc => cases h; exact fun ht => by simpa using not_and.1 hc ht

/-- consequence: a text that is accepted without a map denotes a NodeId whose printed form parses
    to the same NodeId — parsing is a retraction onto canonical texts. -/
theorem parse_idempotent (s : Str) (n : NodeId) (h : parseNodeId s [] none = .ok n) :
    parseNodeId n.print [] none = .ok n := by
  apply parse_print
  simp only [parseNodeId, Option.bind_none, List.isEmpty_nil, if_true] at h
  split at h
  · cases h
  · exact valid_of_mkNodeId h

/-! ### non-vacuity and the regression witnesses of the repaired defect D-C09a -/

/-- hostile identifiers satisfy the hypotheses and round-trip (instances of the theorem) -/
example : parseNodeId (NodeId.print ⟨3, .s, "x;ns=2;s=ns".toList⟩) [] none = .ok ⟨3, .s, "x;ns=2;s=ns".toList⟩ :=
  parse_print _ (by decide)
example : parseNodeId (NodeId.print ⟨0, .s, "2;s=ns".toList⟩) [] none = .ok ⟨0, .s, "2;s=ns".toList⟩ :=
  parse_print _ (by decide)
example : parseNodeId (NodeId.print ⟨-7, .i, "42".toList⟩) [(-7, 5)] none = .ok ⟨5, .i, "42".toList⟩ :=
  parse_mapped _ _ (by decide) 5 (by decide) (by decide)

/-- evaluation witnesses (tests, not theorems about all inputs): the texts that the code before
    `fix: cached_parse_nodeid …` rejected or misread -/
theorem witness_transform : parseNodeId "s=transform".toList [] none = .ok ⟨0, .s, "transform".toList⟩ := by
  decide +kernel
theorem witness_no_misread : parseNodeId "s=2;s=ns".toList [] none = .ok ⟨0, .s, "2;s=ns".toList⟩ := by
  decide +kernel
theorem witness_rejects : parseNodeId "ns=1".toList [] none = .error .indexError ∧
    parseNodeId "HasComponent".toList [] none = .error .valueError ∧
    parseNodeId "i=abc".toList [] none = .error .typeError := by decide +kernel

end Opcua.C09
