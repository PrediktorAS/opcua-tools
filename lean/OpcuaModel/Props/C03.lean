import OpcuaModel.Lemmas.Parse
import OpcuaModel.Lemmas.List
import OpcuaModel.Props.C09
/-! # C03 — all identifiers are expressed in one global namespace table. -/
namespace Opcua.C03
open Opcua

/-- **prefix_kept**: whatever list the caller supplied stays a prefix, in its order -/
theorem extend_prefix (e uris : List Str) : e <+: (extendNs e uris).1 := by
  induction uris generalizing e with
  | nil => exact List.prefix_refl _
  | cons n rest ih => exact (addUri_prefix e n).trans (ih (addUri e n))

/-- **uri_once (at most once)**: no URI is entered twice -/
theorem extend_nodup (e uris : List Str) (h : e.Nodup) : (extendNs e uris).1.Nodup := by
  induction uris generalizing e with
  | nil => exact h
  | cons n rest ih => exact ih _ (addUri_nodup e n h)

theorem extend_length (e uris : List Str) : (extendNs e uris).2.length = uris.length := by
  induction uris generalizing e with
  | nil => rfl
  | cons n rest ih => simp [extendNs, ih]

/-- **map_correct**: the i-th URI of a document is found in the final global list at the index the
    document's map gives for it -/
theorem extend_correct (e uris : List Str) (i : Nat) (hi : i < uris.length) :
    ∃ g, (extendNs e uris).2[i]? = some g ∧ (extendNs e uris).1[g]? = uris[i]? := by
  induction uris generalizing e i with
  | nil => cases hi
  | cons n rest ih =>
    cases i with
    | zero =>
      -- the index recorded for `n` is its position in `addUri e n`, which stays a prefix
      have hm : n ∈ addUri e n := mem_addUri.2 (.inr rfl)
      exact ⟨(addUri e n).idxOf n, rfl,
        (getElem?_of_prefix (extend_prefix (addUri e n) rest) (List.idxOf_lt_length_of_mem hm)).trans
          (getElem?_idxOf hm)⟩
    | succ j => exact ih (addUri e n) j (Nat.lt_of_succ_lt_succ hi)

/-- **uri_once (at least once)**: every document URI is in the global list -/
theorem extend_mem (e uris : List Str) (u : Str) (h : u ∈ uris) : u ∈ (extendNs e uris).1 := by
  obtain ⟨i, hi, rfl⟩ := List.getElem_of_mem h
  obtain ⟨g, -, hg⟩ := extend_correct e uris i hi
  exact List.mem_of_getElem? (hg.trans (List.getElem?_eq_getElem hi))

theorem extend_head (e uris : List Str) (ua : Str) (h : e.head? = some ua) :
    (extendNs e uris).1.head? = some ua :=
  head?_of_prefix (extend_prefix e uris) h

/-- **head_is_ua**: with no caller list, or one that starts with the OPC UA namespace, index 0 of
    the result is the OPC UA namespace -/
theorem head_is_ua (caller uris : List Str) (h : caller = [] ∨ caller.head? = some UA_URI) :
    (extendNs (withUA caller) uris).1.head? = some UA_URI := by
  apply extend_head
  -- `withUA caller` is `addUri caller UA_URI`
  rcases h with rfl | h
  · rfl
  · exact head?_of_prefix (addUri_prefix caller UA_URI) h

/-- the caller's list survives `withUA` as a prefix too -/
theorem caller_prefix (caller uris : List Str) : caller <+: (extendNs (withUA caller) uris).1 :=
  (addUri_prefix caller UA_URI).trans (extend_prefix _ _)

/-- the entries of the `namespace_map` dict for local indices `j+1, j+2, …` -/
def tailFrom (j : Nat) (gs : List Nat) : List (Int × Int) :=
  ((List.range' j gs.length).zip gs).map fun p => (((p.1 : Nat) : Int) + 1, ((p.2 : Nat) : Int))

theorem nsMapOf_eq (gs : List Nat) : nsMapOf gs = (0, 0) :: tailFrom 0 gs := by
  simp [nsMapOf, tailFrom, List.range_eq_range']

theorem tailFrom_cons (j g : Nat) (gs : List Nat) :
    tailFrom j (g :: gs) = (((j : Nat) : Int) + 1, ((g : Nat) : Int)) :: tailFrom (j + 1) gs := by
  simp [tailFrom, List.range'_succ]

theorem lookup_tailFrom (gs : List Nat) (i off : Nat) :
    lookup (((i + off : Nat) : Int) + 1) (tailFrom off gs) = (gs[i]?).map fun g => ((g : Nat) : Int) := by
  induction gs generalizing i off with
  | nil => rfl
  | cons g rest ih =>
    rw [tailFrom_cons, lookup]
    cases i with
    | zero => simp
    | succ j =>
      rw [if_neg (by omega), show j + 1 + off = j + (off + 1) by omega]
      exact ih j (off + 1)

/-- the dict `namespace_map` of a document: local index `i+1` ↦ the global index of its i-th URI -/
theorem lookup_nsMapOf (gs : List Nat) (i : Nat) :
    lookup (((i : Nat) : Int) + 1) (nsMapOf gs) = (gs[i]?).map fun g => ((g : Nat) : Int) := by
  rw [nsMapOf_eq, lookup, if_neg (by omega)]
  exact lookup_tailFrom gs i 0

theorem lookup_nsMapOf_zero (gs : List Nat) : lookup (0 : Int) (nsMapOf gs) = some 0 := by
  simp [nsMapOf, lookup]

theorem nsMapOf_ne_nil (gs : List Nat) : nsMapOf gs ≠ [] := List.cons_ne_nil _ _

/-- **identifiers denote through the table**: a NodeId written with local index `k+1` in a
    document whose k-th NamespaceUri is `u` is parsed to a NodeId whose namespace index points at
    `u` in the global list — whatever order the document lists its URIs in, whatever the global list
    held before. Local index 0 maps to global index 0. -/
theorem parsed_id_denotes (e uris : List Str) (n : NodeId) (k : Nat) (hk : k < uris.length)
    (hn : n.ns = ((k : Nat) : Int) + 1) (hv : n.Valid) :
    ∃ g : Nat, parseNodeId n.print (nsMapOf (extendNs e uris).2) none = .ok { n with ns := (g : Int) } ∧
      (extendNs e uris).1[g]? = uris[k]? := by
  obtain ⟨g, h1, h2⟩ := extend_correct e uris k hk
  refine ⟨g, ?_, h2⟩
  apply C09.parse_mapped n _ (nsMapOf_ne_nil _) (g : Int) _ hv
  rw [hn, lookup_nsMapOf, h1]; rfl

theorem parsed_id_zero (gs : List Nat) (n : NodeId) (hn : n.ns = 0) (hv : n.Valid) :
    parseNodeId n.print (nsMapOf gs) none = .ok n :=
  C09.parse_mapped n (nsMapOf gs) (nsMapOf_ne_nil gs) n.ns (by rw [hn]; exact lookup_nsMapOf_zero gs) hv

/-- an index the document does not declare is an error, never a silent default -/
theorem undeclared_index_rejected (gs : List Nat) (n : NodeId) (k : Nat) (hk : gs.length ≤ k)
    (hn : n.ns = ((k : Nat) : Int) + 1) :
    parseNodeId n.print (nsMapOf gs) none = .error .keyError := by
  apply C09.parse_unmapped n _ (nsMapOf_ne_nil gs)
  rw [hn, lookup_nsMapOf, List.getElem?_eq_none hk]; rfl

/-- **denotation is independent of the order of NamespaceUris and of the local indices**: two
    documents (or two permutations of one) that list the same URI at positions `k` and `k'` map
    those local indices to global indices holding that same URI. -/
theorem denotation_independent (e e' uris uris' : List Str) (k k' : Nat) (hk : k < uris.length)
    (hk' : k' < uris'.length) (hu : uris[k]? = uris'[k']?) :
    ∃ g g', (extendNs e uris).2[k]? = some g ∧ (extendNs e' uris').2[k']? = some g' ∧
      (extendNs e uris).1[g]? = (extendNs e' uris').1[g']? := by
  obtain ⟨g, h1, h2⟩ := extend_correct e uris k hk
  obtain ⟨g', h1', h2'⟩ := extend_correct e' uris' k' hk'
  exact ⟨g, g', h1, h1', by rw [h2, h2', hu]⟩

/-- across files the list only grows at the end, so what an earlier file's ids denote is unchanged
    by parsing later files -/
theorem earlier_ids_stable (e uris later : List Str) (g : Nat) (hg : g < (extendNs e uris).1.length) :
    (extendNs (extendNs e uris).1 later).1[g]? = (extendNs e uris).1[g]? :=
  getElem?_of_prefix (extend_prefix _ _) hg

/-- `UAGraph._get_namespace_list`: key `i` of the dict ends up at index `i` -/
theorem namespaceList_at (d : List (Nat × Str)) (i : Nat) (u : Str) (h : lookup i d = some u) :
    (namespaceListOfDict d)[i]? = some u := by
  unfold namespaceListOfDict
  have hmem : i ∈ d.map Prod.fst := (mem_keys_iff i d).2 (by rw [h]; rfl)
  cases hm : (d.map Prod.fst).max? with
  | none => rw [List.max?_eq_none_iff.1 hm] at hmem; cases hmem
  | some m =>
    have hle : i ≤ m := (List.max?_eq_some_iff.1 hm).2 i hmem
    simp [List.getElem?_range (Nat.lt_succ_of_le hle), h]

/-! ### non-vacuity -/
example : extendNs ["UA".toList] ["b".toList, "a".toList, "b".toList, "UA".toList] =
    (["UA".toList, "b".toList, "a".toList], [1, 2, 1, 0]) := by decide
example : nsMapOf [1, 2, 1, 0] = [(0, 0), (1, 1), (2, 2), (3, 1), (4, 0)] := by decide

end Opcua.C03
