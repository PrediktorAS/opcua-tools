import OpcuaModel.Model.Order
import OpcuaModel.Lemmas.Order
/-! # C14 — normalised tables are canonical; UA values are well ordered. -/
namespace Opcua.C14
open Opcua

/-! **strict weak order of `lt`** (`lt_irrefl`, `lt_trans`, `lt_trichotomy`): irreflexive, transitive, and for any two
    values exactly one of `a < b`, `b < a`, or "same class and same printed tuple" holds. Generic in the printed form. -/

theorem lt_irrefl (a : Key) : Key.lt a a = false := keyLt_sto.irrefl a

theorem lt_trans (a b c : Key) (h1 : Key.lt a b = true) (h2 : Key.lt b c = true) : Key.lt a c = true :=
  keyLt_sto.trans a b c h1 h2

theorem lt_trichotomy (a b : Key) :
    (Key.lt a b = true ∧ Key.lt b a = false ∧ a ≠ b) ∨
    (Key.lt a b = false ∧ Key.lt b a = true ∧ a ≠ b) ∨
    (Key.lt a b = false ∧ Key.lt b a = false ∧ a = b) :=
  keyLt_sto.cases a b

/-- `<=` is consistent with `<`: `a <= b ↔ ¬ (b < a)`; `>` and `>=` are the flipped operators -/
theorem le_iff_not_lt (a b : Key) : Key.le a b = !Key.lt b a := by
  simp only [Key.le, Key.lt, sle_iff, ne_comm (a := b.cls)]
  split <;> rfl

theorem gt_ge_flip (a b : Key) : Key.gt a b = Key.lt b a ∧ Key.ge a b = Key.le b a := ⟨rfl, rfl⟩

/-- **sorting is canonical**: the sorted table depends only on the multiset of rows, not on the
    order in which they were stored. -/
theorem sort_canonical (rows₁ rows₂ : List Row) (h : rows₁.Perm rows₂) :
    sortRows rows₁ = sortRows rows₂ := by
  unfold sortRows rowLe
  exact mergeSort_canonical rowLt_sto rows₁ rows₂ h

/-- sorting forgets a permutation and a re-labelling `σ` of the rows a table is built from -/
theorem sortRows_map_perm {α β} {f : α → Row} {g : β → Row} {σ : β → α} {l : List β} {l' : List α}
    (hp : l'.Perm (l.map σ)) (hfg : ∀ r, f (σ r) = g r) : sortRows (l'.map f) = sortRows (l.map g) := by
  apply sort_canonical
  refine (hp.map f).trans (.of_eq ?_)
  rw [List.map_map]
  exact List.map_congr_left fun r _ => hfg r

/-- the graph's ids determine NodeIds (two rows with one id carry one NodeId) -/
def IdsConsistent (nodes : List NRow) : Prop :=
  ∀ r ∈ nodes, ∀ s ∈ nodes, r.id = s.id → r.nid = s.nid

/-- with consistent ids, `lookupId` does not depend on which row with the id comes first -/
theorem lookupId_eq_some {l : List NRow} (hc : IdsConsistent l) (i : Nat) (k : Key) :
    lookupId l i = some k ↔ ∃ r ∈ l, r.id = i ∧ r.nid = k := by
  simp only [lookupId, Option.map_eq_some_iff]
  constructor
  · rintro ⟨r, hf, rfl⟩
    exact ⟨r, List.mem_of_find?_eq_some hf, by simpa using List.find?_some hf, rfl⟩
  · rintro ⟨r, hr, rfl, rfl⟩
    have hex : ∃ s ∈ l, decide (s.id = r.id) = true := ⟨r, hr, decide_eq_true rfl⟩
    obtain ⟨s, hf⟩ := Option.isSome_iff_exists.1 (List.find?_isSome.2 hex)
    exact ⟨s, hf, hc s (List.mem_of_find?_eq_some hf) r hr (by simpa using List.find?_some hf)⟩

/-- after an injective renumbering and a permutation of the rows, a new id finds the NodeId the
    old id found -/
theorem lookupId_renumber_perm {π : Nat → Nat} (hπ : ∀ a b, π a = π b → a = b) {nodes nodes' : List NRow}
    (hc : IdsConsistent nodes) (hp : nodes'.Perm (nodes.map (renumberNode π))) (i : Nat) :
    lookupId nodes' (π i) = lookupId nodes i := by
  have hc' : IdsConsistent nodes' := by
    intro r hr s hs e
    obtain ⟨r0, hr0, rfl⟩ := List.mem_map.1 (hp.subset hr)
    obtain ⟨s0, hs0, rfl⟩ := List.mem_map.1 (hp.subset hs)
    exact hc r0 hr0 s0 hs0 (hπ _ _ e)
  apply Option.ext
  intro k
  simp only [lookupId_eq_some hc, lookupId_eq_some hc', hp.mem_iff, List.mem_map]
  constructor
  · rintro ⟨_, ⟨r, hr, rfl⟩, e, rfl⟩
    exact ⟨r, hr, hπ _ _ e, rfl⟩
  · rintro ⟨r, hr, rfl, rfl⟩
    exact ⟨_, ⟨r, hr, rfl⟩, rfl, rfl⟩

theorem denorm_renumber {π : Nat → Nat} {nodes nodes' : List NRow}
    (hl : ∀ i, lookupId nodes' (π i) = lookupId nodes i) (r : NRow) :
    denormNode nodes' (renumberNode π r) = denormNode nodes r := by
  have hb (o : Option Nat) : (o.map π).bind (lookupId nodes') = o.bind (lookupId nodes) := by
    cases o <;> simp [hl]
  simp only [denormNode, renumberNode, hb]

/-- **renumber_invariant**: the normalised node table of a graph is unchanged by any injective
    renumbering of the internal ids combined with any permutation of the rows. -/
theorem renumber_invariant (π : Nat → Nat) (hπ : ∀ a b, π a = π b → a = b) (nodes nodes' : List NRow)
    (hc : IdsConsistent nodes) (hp : nodes'.Perm (nodes.map (renumberNode π))) :
    normalizedNodes nodes' = normalizedNodes nodes := by
  unfold normalizedNodes
  exact sortRows_map_perm hp (denorm_renumber (lookupId_renumber_perm hπ hc hp))

/-- the same for the reference table -/
theorem renumber_invariant_refs (π : Nat → Nat) (hπ : ∀ a b, π a = π b → a = b)
    (nodes nodes' : List NRow) (refs refs' : List (Nat × Nat × Nat))
    (hc : IdsConsistent nodes) (hp : nodes'.Perm (nodes.map (renumberNode π)))
    (hr : refs'.Perm (refs.map fun r => (π r.1, π r.2.1, π r.2.2))) :
    normalizedRefs nodes' refs' = normalizedRefs nodes refs := by
  unfold normalizedRefs
  exact sortRows_map_perm hr fun r => by simp only [lookupId_renumber_perm hπ hc hp]

/-! ### equality and hashing of values -/

theorem fldEq_eq_true {x y : Fld} (h : fldEq x y = .ok true) : x = y := by
  cases x <;> cases y <;> simp_all [fldEq]

theorem fldEq_of_ne_na {x y : Fld} (hx : x ≠ .na) (hy : y ≠ .na) : fldEq x y = .ok (x == y) := by
  cases x <;> cases y <;> simp_all [fldEq]

/-- equal values have equal field tuples, hence equal hashes (`hash` is a function of the tuple) -/
theorem eq_implies_same_fields (a b : List Fld) (h : tupleEq a b = .ok true) : a = b := by
  induction a generalizing b with
  | nil => cases b <;> simp_all [tupleEq]
  | cons x xs ih =>
    cases b with
    | nil => simp [tupleEq] at h
    | cons y ys =>
      simp only [tupleEq] at h
      split at h
      · cases h
      · cases h
      · next hf => rw [fldEq_eq_true hf, ih ys h]

/-- **no comparison error without a one-sided `pd.NA`**: `==` raises only if some compared position
    holds `pd.NA` on exactly one side (finding D-C14a is the excluded case) -/
theorem eq_no_error (a b : List Fld) (h : ∀ x ∈ a, x ≠ .na) (h' : ∀ y ∈ b, y ≠ .na) :
    ∃ v, tupleEq a b = .ok v := by
  induction a generalizing b with
  | nil => cases b <;> simp [tupleEq]
  | cons x xs ih =>
    cases b with
    | nil => simp [tupleEq]
    | cons y ys =>
      obtain ⟨hx, hxs⟩ := List.forall_mem_cons.1 h
      obtain ⟨hy, hys⟩ := List.forall_mem_cons.1 h'
      simp only [tupleEq, fldEq_of_ne_na hx hy]
      cases x == y with
      | false => exact ⟨false, rfl⟩
      | true => exact ih ys hxs hys

/-- the excluded point is real: `UAInt32(1) == UAInt32(pd.NA)` raises `TypeError` -/
theorem eq_na_witness : valEq "UAInt32".toList [.atom "1".toList] "UAInt32".toList [.na] = .error .typeError := by
  decide

/-! ### non-vacuity -/
example : Key.lt ⟨"UAInt32".toList, "(1,)".toList⟩ ⟨"UAInt32".toList, "(2,)".toList⟩ = true := by decide
example : sortRows [[some ⟨"B".toList, []⟩], [none]] = sortRows [[none], [some ⟨"B".toList, []⟩]] :=
  sort_canonical _ _ (List.Perm.swap _ _ _)
example : IdsConsistent [⟨1, ⟨[], ['a']⟩, none, some 1, none, []⟩] := by
  intro r hr s hs _
  rw [List.mem_singleton.1 hr, List.mem_singleton.1 hs]

end Opcua.C14
