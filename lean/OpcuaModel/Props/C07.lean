import OpcuaModel.Model.Write
import OpcuaModel.Lemmas.Xml
import OpcuaModel.Props.C06
import OpcuaModel.Props.C08
/-! # C07 — written NodeSets are well-formed and self-contained; text never breaks the markup. -/
namespace Opcua.C07
open Opcua Opcua.Xml

/-! ### lexical safety of the two escaping functions (every string) -/

/-- text content: no `<` survives, and an XML reader's entity decoding gives the text back -/
theorem text_never_breaks_markup (s : Str) : '<' ∉ escText s ∧ decode (escText s) = some s :=
  ⟨lt_not_mem_escOf false s, decode_escText s⟩

/-- attribute values: neither `<` nor `"` survives, and decoding gives the value back -/
theorem attr_never_breaks_markup (s : Str) : '<' ∉ escAttr s ∧ '"' ∉ escAttr s ∧ decode (escAttr s) = some s :=
  ⟨lt_not_mem_escOf true s, quot_not_mem_escAttr s, decode_escAttr s⟩

/-- why attribute values need the quote-aware variant: plain `escape` lets `"` through
    (the defect repaired by `fix: escape quotes in attribute values …`) -/
theorem plain_escape_not_attr_safe : '"' ∈ escText ['a', '"', 'b'] := by decide

/-! ### every node element is the rendering of a layout tree, hence read back exactly -/

def leaf (tag text : Str) : X := .node tag [] [] false text .nil

/-- the attributes of a node element as `openText` lays them out (`symPiece` ends with a blank of its own, so with a
    SymbolicName two blanks stand in front of BrowseName) -/
def attrLayout (n : WNode) : List PAttr :=
  ⟨[' '], kNodeId, n.nodeIdText⟩ ::
    ((match n.symbolic with | some s => [⟨[' '], kSymbolicName, s⟩] | none => []) ++
      (⟨(match n.symbolic with | some _ => [' ', ' '] | none => [' ']), kBrowseName, n.browseText⟩ ::
        n.others.map fun a => ⟨[' '], a.1, a.2⟩))

def refX (r : WRef) : X :=
  .node tReference (⟨[' '], kReferenceType, r.ty⟩ :: (if r.forward then [] else [⟨[' ', ' '], kIsForward, kFalse⟩])) [] true r.other .nil

def refsXS : List WRef → XS
  | [] => .nil
  | r :: rs => .cons (refX r) (refsXS rs)

def valueXS (n : WNode) : XS :=
  match n.value with
  | some v => .cons (.node tValueEl [] [] false [] (.cons (C08.encodeX v true) .nil)) .nil
  | none => .nil

def nodeLayout (n : WNode) : X :=
  .node n.cls (attrLayout n) [' '] false []
    (.cons (leaf tDisplayName n.display) (.cons (leaf tDescription n.description)
      (.cons (.node tReferences [] [] false [] (refsXS n.refs)) (valueXS n))))

theorem printAttrs_append (l₁ l₂ : List PAttr) : printAttrs (l₁ ++ l₂) = printAttrs l₁ ++ printAttrs l₂ := by
  simp [printAttrs]

theorem others_shift (l : List (Str × Str)) (rest : Str) :
    printAttrs (l.map fun a => (⟨[' '], a.1, a.2⟩ : PAttr)) ++ (' ' :: rest) = ' ' :: (l.flatMap otherPiece ++ rest) := by
  induction l with
  | nil => simp [printAttrs]
  | cons a as ih =>
    rw [List.map_cons, printAttrs_cons, List.append_assoc, ih, printAttr_eq]
    simp [otherPiece, List.append_assoc]

theorem printAttrs_nil : printAttrs [] = ([] : Str) := rfl

theorem openText_eq (n : WNode) : openText n = printOpen n.cls (attrLayout n) [' '] := by
  unfold openText printOpen attrLayout symPiece
  have hs := others_shift n.others ['>']
  cases n.symbolic <;>
    simp only [List.nil_append, printAttrs_cons, printAttr_eq, List.append_assoc, List.cons_append, hs]

theorem refPiece_eq (r : WRef) : refPiece r = render (refX r) := by
  have hf : printAttrs (if r.forward then [] else [⟨[' ', ' '], kIsForward, kFalse⟩]) =
      if r.forward then [] else ' ' :: ' ' :: (kIsForward ++ ('=' :: '"' :: (kFalse ++ ['"']))) := by
    have e : escAttr kFalse = kFalse := by decide
    cases r.forward
    · simp only [Bool.false_eq_true, if_false, printAttrs_cons, printAttrs_nil, printAttr_eq, e, List.append_nil,
        List.cons_append, List.nil_append]
    · rfl
  simp only [refPiece, refX, render, renderS, printOpen, printClose, printAttrs_cons, printAttr_eq, hf, escOf, if_true,
    List.append_assoc, List.cons_append, List.nil_append]

theorem refs_eq (l : List WRef) : l.flatMap refPiece = renderS (refsXS l) := by
  induction l with
  | nil => rfl
  | cons r rs ih => simp [refsXS, renderS, refPiece_eq, ih]

-- `elemText tag` is `wrap tag false`, and `leaf tag` is `C08.leafX tag false`: the element lemmas of C08 apply
theorem elemText_leaf (tag text : Str) : elemText tag (escText text) = render (leaf tag text) :=
  C08.wrap_leaf tag false text

theorem elemText_node (tag : Str) (kids : XS) : elemText tag (renderS kids) = render (.node tag [] [] false [] kids) :=
  C08.wrap_node tag false kids

/-- **the node text is the rendering of its layout tree** (values in C08's supported domain) -/
theorem nodeText_render (n : WNode) (hv : ∀ v, n.value = some v → C08.Supported v) :
    nodeText n = render (nodeLayout n) := by
  unfold nodeText nodeLayout valueXS
  rw [elemText_leaf, elemText_leaf, refs_eq, elemText_node, openText_eq]
  cases hval : n.value with
  | none =>
    simp only [render, renderS, escOf, escText, Bool.false_eq_true, if_false, printClose, List.nil_append, List.append_assoc]
  | some v =>
    have hx : elemText tValueEl (encodeText v true) =
        render (.node tValueEl [] [] false [] (.cons (C08.encodeX v true) .nil)) := by
      rw [C08.encodeText_render v true (hv v hval)]
      exact C08.wrap_xs1 tValueEl false _
    simp only [hx, render, renderS, escOf, escText, Bool.false_eq_true, if_false, printClose, List.nil_append,
      List.append_nil, List.append_assoc]

/-- what the writer needs from a row: XML names for the class and the attribute names -/
structure NodeOK (n : WNode) : Prop where
  cls : NameOK n.cls
  others : ∀ a ∈ n.others, NameOK a.1
  value : ∀ v, n.value = some v → C08.Supported v

theorem leaf_WF {tag text : Str} (h : NameOK tag) : WF (leaf tag text) := C08.leafX_WF (b := false) h

theorem refX_WF (r : WRef) : WF (refX r) := by
  refine ⟨openOK_of (by decide) (List.forall_mem_cons.2 ⟨pattr_spaces (.inl rfl) (by decide), ?_⟩) nofun, trivial⟩
  cases r.forward
  · exact List.forall_mem_singleton.2 (pattr_spaces (.inr rfl) (by decide))
  · nofun

theorem refsXS_WF (l : List WRef) : WFS (refsXS l) := by
  induction l with
  | nil => trivial
  | cons r rs ih => exact ⟨refX_WF r, ih⟩

theorem nodeLayout_WF (n : WNode) (h : NodeOK n) : WF (nodeLayout n) := by
  refine ⟨openOK_of h.cls ?_ (by decide), leaf_WF (by decide), leaf_WF (by decide),
    ⟨openOK_of (by decide) nofun nofun, refsXS_WF _⟩, ?_⟩
  · simp only [attrLayout, List.forall_mem_cons, List.forall_mem_append, List.forall_mem_map]
    refine ⟨pattr_spaces (.inl rfl) (by decide), ?_, ?_, fun b hb => pattr_spaces (.inl rfl) (h.others b hb)⟩
    · cases n.symbolic
      · nofun
      · exact List.forall_mem_singleton.2 (pattr_spaces (.inl rfl) (by decide))
    · cases n.symbolic
      · exact pattr_spaces (.inl rfl) (by decide)
      · exact pattr_spaces (.inr rfl) (by decide)
  · unfold valueXS
    cases hval : n.value with
    | none => trivial
    | some v => exact ⟨⟨openOK_of (by decide) nofun nofun, C08.encodeX_WF v true (h.value v hval), trivial⟩, trivial⟩

/-- **every node element is well-formed and loses nothing**: a conforming reader gets exactly the
    intended tree from the emitted text — attribute values, display name, description, reference
    targets and the value — whatever characters (`<`, `>`, `&`, quotes, non-ASCII) they contain -/
theorem node_wellformed (n : WNode) (h : NodeOK n) :
    parseXml (nodeText n) = some (Xml.strip (nodeLayout n)) := by
  rw [nodeText_render n h.value]
  exact parseXml_render _ (nodeLayout_WF n h)

/-- the attributes a reader sees are the row's values, unescaped, in the order written -/
theorem node_attrs_recovered (n : WNode) :
    (Xml.strip (nodeLayout n)).attrs = (attrLayout n).map fun a => (a.k, a.v) := by
  simp [nodeLayout, Xml.strip, T.attrs]

/-! ### self-contained: the written namespace comes first and carries the model -/

/-- **first_uri_and_model**: the first NamespaceUris entry of a written document is the URI of its
    Model element -/
theorem first_uri_and_model (ns : List Str) (nodes : List GNode) (refs : List (Nat × Nat × Nat)) (models : List ModelElem)
    (d : WDoc) (h : createNodeset ns nodes refs models = .ok d) : d.uris.head? = some d.modelUri := by
  obtain ⟨_, h1, h2⟩ := C06.createNodeset_inv ns nodes refs models d h
  rw [h2, List.head?_drop]
  exact h1

/-! ### non-vacuity: a hostile row satisfies `NodeOK` -/
def clsObj : Str := "UAObject".toList
def hostile1 : Str := "ns=1;s=a\"b<&".toList
def hostile2 : Str := "1:q'>".toList
def demoNode : WNode :=
  { cls := clsObj, attrs := [(kNodeId, hostile1), (kBrowseName, hostile2), (kIsForward, hostile1)],
    display := hostile1, description := hostile2,
    refs := [⟨false, hostile2, hostile1⟩, ⟨true, hostile1, hostile2⟩], value := none }

theorem demoNode_ok : NodeOK demoNode where
  cls := by decide
  others := by decide
  value := nofun

example : parseXml (nodeText demoNode) = some (Xml.strip (nodeLayout demoNode)) := node_wellformed _ demoNode_ok

end Opcua.C07
