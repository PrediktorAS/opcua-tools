import OpcuaModel.Model.Meta
import OpcuaModel.Lemmas.Parse
/-! # C18 — model and namespace metadata are reported faithfully and consistently. -/
namespace Opcua.C18
open Opcua

/-- **models_as_declared**: the models in the parse output of a document are exactly the Model
    elements it declares (URI, version, publication date, required models), in order -/
theorem models_as_declared (g : List Str) (d : Doc) (k : Nat) (g1 : List Str) (p : ParsedDoc)
    (h : parseDoc g d k = .ok (g1, p)) : p.models = d.models := by
  obtain ⟨_, _, _, _, _, _, _, _, hp⟩ := parseDoc_inv h
  rw [hp]

/-- **helpers_agree**: the XML helper and the JSON (side-file) helper give the same answer for every
    document that has a NamespaceUris element or whose model is the OPC UA model. (The hypothesis is
    what the proof needs; at the excluded point — a non-UA model and no NamespaceUris — the JSON
    helper raises while the XML helper answers: finding D-C18a.) -/
theorem helpers_agree (f : FileDoc)
    (h : f.hasNsUris = true ∨ (∀ m, f.doc.models.head? = some m → m.uri = some UA_URI)) :
    nsDataJson f = nsDataXml f := by
  unfold nsDataJson nsDataXml sideLines
  by_cases hb : nsDataXml.endsWithStr f.name kBaseName = true
  · simp [hb]
  · simp only [hb, Bool.false_eq_true, if_false]
    cases hm : f.doc.models with
    | nil =>
      cases f.hasNsUris <;> simp [List.findSome?]
    | cons m ms =>
      cases hn : f.hasNsUris with
      | true => simp [List.findSome?]
      | false =>
        have hu : m.uri = some UA_URI := by
          rcases h with h | h
          · rw [hn] at h; cases h
          · exact h m (by rw [hm]; rfl)
        simp [List.findSome?, hu, addUris]

/-- the excluded point is real -/
theorem helpers_disagree_witness :
    nsDataXml ⟨"x.xml".toList, false, ⟨[], [⟨some "urn:x".toList, none, none, []⟩], [], []⟩⟩ = .ok ⟨"urn:x".toList, [UA_URI]⟩ ∧
    nsDataJson ⟨"x.xml".toList, false, ⟨[], [⟨some "urn:x".toList, none, none, []⟩], [], []⟩⟩ = .error .valueError := by
  constructor <;> decide +kernel

theorem mem_addUris (own : Str) (init uris : List Str) (y : Str) :
    y ∈ addUris own init uris ↔ y ∈ init ∨ (y ∈ uris ∧ y ≠ own) := by
  unfold addUris
  induction uris generalizing init with
  | nil => simp
  | cons u us ih =>
    rw [List.foldl_cons, ih]
    -- `u` joins `init` unless it is `own` (`insertSet` is `addUri`)
    have hi : y ∈ insertSet init u ↔ y ∈ init ∨ y = u := mem_addUri
    by_cases hu : u = own
    · subst hu
      by_cases hy : y = u <;> simp [hy]
    · by_cases hy : y = u
      · subst hy; simp [hu, hi]
      · simp [hu, hy, hi]

/-- **own_and_deps**: for a file that is not the base document by name and whose first model is not
    the OPC UA model, the helper reports the first model URI as the file's own namespace, and as
    dependencies exactly the other NamespaceUris entries plus the OPC UA namespace -/
theorem own_and_deps (f : FileDoc) (m : ModelElem) (ms : List ModelElem) (u : Str)
    (hb : nsDataXml.endsWithStr f.name kBaseName = false) (hm : f.doc.models = m :: ms) (hu : m.uri = some u)
    (hne : u ≠ UA_URI) (hn : f.hasNsUris = true) :
    ∃ d, nsDataXml f = .ok d ∧ d.name = u ∧ ∀ y, y ∈ d.included ↔ y = UA_URI ∨ (y ∈ f.doc.uris ∧ y ≠ u) := by
  unfold nsDataXml
  have h1 : ¬ (some u = some UA_URI) := by simpa using hne
  simp only [hb, Bool.false_eq_true, if_false, hm, hu, h1, hn, if_true, Option.getD_some]
  refine ⟨_, rfl, rfl, fun y => ?_⟩
  simp [mem_addUris]

/-- **filter_exact**: filtering a file list by namespaces keeps exactly the files one of whose
    (model) URIs is in the list, in their order -/
theorem filter_exact (files : List FileDoc) (namespaces : List (Option Str)) (f : FileDoc) :
    f ∈ excludeFiles files namespaces ↔
      f ∈ files ∧ ∃ u ∈ xmlNamespaces f, u ≠ [] ∧ some u ∈ namespaces := by
  unfold excludeFiles
  simp only [List.mem_filter, List.any_eq_true, List.contains_iff_mem, List.mem_filterMap]
  constructor
  · rintro ⟨hf, u, hu, x, hx, hxu⟩
    rcases x with _ | v
    · cases hxu
    · simp only at hxu
      split at hxu
      · cases hxu
      · next hv => cases hxu; exact ⟨hf, u, hu, hv, hx⟩
  · rintro ⟨hf, u, hu, hne, hx⟩
    exact ⟨hf, u, hu, some u, hx, by simp [hne]⟩

theorem filter_sublist (files : List FileDoc) (namespaces : List (Option Str)) :
    (excludeFiles files namespaces).Sublist files := List.filter_sublist

theorem filesAux_models (g : List Str) (docs : List Doc) (r : ParseOut) (h : parseFilesAux g docs = .ok r) :
    r.models = docs.flatMap (·.models) := by
  induction docs generalizing g r with
  | nil => cases h; rfl
  | cons d ds ih =>
    obtain ⟨g1, p, r', hp, hr', rfl⟩ := parseFilesAux_cons_inv h
    rw [List.flatMap_cons, ← ih g1 r' hr', ← models_as_declared g d _ g1 p hp]

/-- **several documents in one call**: the models of the output are the documents' Model elements, document
    after document in reading order — every one of them, also when two documents declare the same ModelUri -/
theorem files_models_concat (caller : List Str) (docs : List Doc) (out : ParseOut) (h : parseFiles caller docs = .ok out) :
    out.models = docs.flatMap (·.models) := by
  obtain ⟨raw, hraw, rfl⟩ := parseFiles_inv h
  exact filesAux_models caller docs raw hraw

/-! ### non-vacuity -/
example : nsDataXml ⟨"a.xml".toList, true, ⟨["urn:a".toList, "urn:b".toList], [⟨some "urn:a".toList, none, none, []⟩], [], []⟩⟩ =
    .ok ⟨"urn:a".toList, [UA_URI, "urn:b".toList]⟩ := by decide +kernel

end Opcua.C18
