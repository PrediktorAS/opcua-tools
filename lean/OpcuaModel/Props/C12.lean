import OpcuaModel.Lemmas.List
import Mathlib.Logic.Relation
import Mathlib.Data.List.Nodup
import Batteries.Data.List.Perm
import Mathlib.Data.List.ProdSigma
/-! # C12 — closures and type-constrained selections agree with graph reachability. -/
namespace Opcua.C12
open Opcua Relation

theorem mem_uniques {α} [DecidableEq α] (l : List α) (a : α) : a ∈ uniques l ↔ a ∈ l := Opcua.mem_uniques l a

theorem nodup_uniques {α} [DecidableEq α] (l : List α) : (uniques l).Nodup := Opcua.nodup_uniques l

/-- the Boolean matrix as a list: the pairs of `V × V` that pass the test, in product order -/
theorem pairsWhere_eq_filter (V : List Nat) (p : Nat → Nat → Bool) :
    pairsWhere V p = (V ×ˢ V).filter fun q => p q.1 q.2 := by
  simp only [pairsWhere, SProd.sprod, List.product, List.map_eq_flatMap, List.filter_flatMap,
    List.filter_cons, List.filter_nil]

theorem mem_pairsWhere {V : List Nat} {p : Nat → Nat → Bool} {a c : Nat} :
    (a, c) ∈ pairsWhere V p ↔ a ∈ V ∧ c ∈ V ∧ p a c = true := by
  rw [pairsWhere_eq_filter, List.mem_filter, List.mem_product, and_assoc]

theorem nodup_pairsWhere {V : List Nat} (hV : V.Nodup) (p : Nat → Nat → Bool) :
    (pairsWhere V p).Nodup :=
  pairsWhere_eq_filter V p ▸ (hV.product hV).filter _

theorem mem_comp {V : List Nat} {R : List Edge} {a c : Nat} :
    (a, c) ∈ comp V R ↔ a ∈ V ∧ c ∈ V ∧ ∃ b ∈ V, (a, b) ∈ R ∧ (b, c) ∈ R := by
  simp [comp, mem_pairsWhere]

theorem mem_withId {V : List Nat} {E : List Edge} {a b : Nat} :
    (a, b) ∈ withId V E ↔ a ∈ V ∧ b ∈ V ∧ (a = b ∨ (a, b) ∈ E) := by
  simp [withId, mem_pairsWhere]

def edge (E : List Edge) (a b : Nat) : Prop := (a, b) ∈ E

/-- invariant of the squaring iteration -/
structure Good (V : List Nat) (E : List Edge) (R : List Edge) : Prop where
  nodup : R.Nodup
  inV : ∀ a b, (a, b) ∈ R → a ∈ V ∧ b ∈ V
  refl : ∀ a ∈ V, (a, a) ∈ R
  sound : ∀ a b, (a, b) ∈ R → ReflTransGen (edge E) a b
  base : ∀ a b, (a, b) ∈ E → (a, b) ∈ R

theorem subset_comp {V E R} (g : Good V E R) : R ⊆ comp V R := by
  rintro ⟨a, b⟩ h
  obtain ⟨ha, hb⟩ := g.inV a b h
  exact mem_comp.2 ⟨ha, hb, b, hb, h, g.refl b hb⟩

theorem subperm_comp {V E R} (g : Good V E R) : R.Subperm (comp V R) :=
  List.subperm_of_subset g.nodup (subset_comp g)

theorem good_comp {V E R} (hV : V.Nodup) (g : Good V E R) : Good V E (comp V R) where
  nodup := nodup_pairsWhere hV _
  inV := fun a b h => let ⟨ha, hb, _⟩ := mem_comp.1 h; ⟨ha, hb⟩
  refl := fun a ha => mem_comp.2 ⟨ha, ha, a, ha, g.refl a ha, g.refl a ha⟩
  sound := fun a c h => by
    obtain ⟨_, _, b, _, h1, h2⟩ := mem_comp.1 h
    exact (g.sound a b h1).trans (g.sound b c h2)
  base := fun a b h => subset_comp g (g.base a b h)

/-- if squaring does not add a pair, R is transitive, hence contains all reachability -/
theorem complete_of_fix {V E R} (hV : V.Nodup) (g : Good V E R)
    (hlen : (comp V R).length = R.length) :
    ∀ a b, a ∈ V → ReflTransGen (edge E) a b → (a, b) ∈ comp V R := by
  have hsub : comp V R ⊆ R := ((subperm_comp g).perm_of_length_le (by omega)).symm.subset
  intro a b ha h
  induction h with
  | refl => exact (good_comp hV g).refl a ha
  | @tail b c _ hbc ih =>
    have hab : (a, b) ∈ R := hsub ih
    have hbc' : (b, c) ∈ R := g.base b c hbc
    obtain ⟨_, hb⟩ := g.inV a b hab
    obtain ⟨_, hc⟩ := g.inV b c hbc'
    exact mem_comp.2 ⟨ha, hc, b, hb, hab, hbc'⟩

/-- **fuel_suffices**: the iteration reaches its fixed point within `|V|²+1` rounds — the pair
    count strictly grows until then and is bounded by `|V|²`. -/
theorem iter_spec {V E} (hV : V.Nodup) :
    ∀ fuel R, Good V E R → V.length * V.length < R.length + fuel →
      Good V E (iterSq V fuel R) ∧
      ∀ a b, a ∈ V → ReflTransGen (edge E) a b → (a, b) ∈ iterSq V fuel R := by
  intro fuel
  induction fuel with
  | zero =>
    intro R g h
    -- `R` has no duplicates and lies inside `V × V`
    have hsub : R ⊆ V ×ˢ V := fun ⟨a, b⟩ hab => List.mem_product.2 (g.inV a b hab)
    have := (List.subperm_of_subset g.nodup hsub).length_le
    rw [List.length_product] at this
    omega
  | succ fuel ih =>
    intro R g h
    simp only [iterSq]
    split
    · next hlen => exact ⟨good_comp hV g, complete_of_fix hV g hlen⟩
    · next hne =>
      have hle := (subperm_comp g).length_le
      exact ih (comp V R) (good_comp hV g) (by omega)

theorem nodup_verts (E : List Edge) : (verts E).Nodup := nodup_uniques _

theorem mem_verts {E : List Edge} {a b : Nat} (h : (a, b) ∈ E) : a ∈ verts E ∧ b ∈ verts E := by
  unfold verts
  simp only [mem_uniques, List.mem_append, List.mem_map]
  exact ⟨Or.inl ⟨(a, b), h, rfl⟩, Or.inr ⟨(a, b), h, rfl⟩⟩

theorem good_withId (E : List Edge) : Good (verts E) E (withId (verts E) E) where
  nodup := nodup_pairsWhere (nodup_verts E) _
  inV := fun a b h => let ⟨ha, hb, _⟩ := mem_withId.1 h; ⟨ha, hb⟩
  refl := fun a ha => mem_withId.2 ⟨ha, ha, Or.inl rfl⟩
  sound := fun a b h => by
    obtain ⟨_, _, h | h⟩ := mem_withId.1 h
    · subst h; exact ReflTransGen.refl
    · exact ReflTransGen.single h
  base := fun a b h => mem_withId.2 ⟨(mem_verts h).1, (mem_verts h).2, Or.inr h⟩

/-- the iteration inside `closure E`: started from `E` plus the identity, with the fuel it is given -/
theorem closure_spec (E : List Edge) :
    Good (verts E) E (iterSq (verts E) ((verts E).length * (verts E).length + 1) (withId (verts E) E)) ∧
    ∀ a b, a ∈ verts E → ReflTransGen (edge E) a b →
      (a, b) ∈ iterSq (verts E) ((verts E).length * (verts E).length + 1) (withId (verts E) E) :=
  iter_spec (nodup_verts E) _ _ (good_withId E) (by omega)

/-- **C12, closure**: the result of squaring-to-fixpoint contains (a,b) exactly when a ≠ b and
    b is reachable from a over one or more references. For every finite edge list. -/
theorem closure_iff_reach (E : List Edge) (a b : Nat) :
    (a, b) ∈ closure E ↔ a ≠ b ∧ TransGen (edge E) a b := by
  obtain ⟨g, hc⟩ := closure_spec E
  simp only [closure, List.mem_filter, decide_eq_true_eq, ne_eq]
  constructor
  · rintro ⟨h, hne⟩
    exact ⟨hne, (reflTransGen_iff_eq_or_transGen.1 (g.sound a b h)).resolve_left (Ne.symm hne)⟩
  · rintro ⟨hne, h⟩
    obtain ⟨c, hac, _⟩ := TransGen.head'_iff.1 h
    exact ⟨hc a b (mem_verts hac).1 h.to_reflTransGen, hne⟩

/-- each pair is reported once -/
theorem closure_nodup (E : List Edge) : (closure E).Nodup :=
  (closure_spec E).1.nodup.filter _

/-- the HasSubtype relation of a reference table -/
def sub (hst : Nat) (refs : List Ref) (a b : Nat) : Prop := (a, b) ∈ subtypeEdges hst refs

/-- a node occurs as an end point of some reference (the domain of the reflexive part) -/
def Occurs (refs : List Ref) (t : Nat) : Prop := ∃ r ∈ refs, r.src = t ∨ r.trg = t

theorem mem_ends_iff (refs : List Ref) (t : Nat) :
    t ∈ refs.map (·.src) ++ refs.map (·.trg) ↔ Occurs refs t := by
  simp only [List.mem_append, List.mem_map, Occurs, ← exists_or, ← and_or_left]

theorem mem_typingTR (hst : Nat) (refs : List Ref) (a b : Nat) :
    (a, b) ∈ typingTR hst refs ↔
      (a ≠ b ∧ TransGen (sub hst refs) a b) ∨ (a = b ∧ Occurs refs a) := by
  rw [typingTR, List.mem_append, closure_iff_reach]
  simp only [List.mem_map, mem_uniques, mem_ends_iff, Prod.mk.injEq]
  refine or_congr Iff.rfl ⟨?_, ?_⟩
  · rintro ⟨t, ht, rfl, rfl⟩
    exact ⟨rfl, ht⟩
  · rintro ⟨rfl, ha⟩
    exact ⟨a, ha, rfl, rfl⟩

/-- where one end occurs in the table, the typing relation is reachability along HasSubtype -/
theorem mem_typingTR_of_occurs (hst : Nat) (refs : List Ref) (a b : Nat)
    (ho : Occurs refs a ∨ Occurs refs b) :
    (a, b) ∈ typingTR hst refs ↔ ReflTransGen (sub hst refs) a b := by
  rw [mem_typingTR, reflTransGen_iff_eq_or_transGen]
  constructor
  · rintro (⟨_, h⟩ | ⟨rfl, _⟩)
    · exact .inr h
    · exact .inl rfl
  · intro h
    by_cases e : a = b
    · subst e
      exact .inr ⟨rfl, ho.elim id id⟩
    · exact .inl ⟨e, h.resolve_left (Ne.symm e)⟩

/-- **subtypes**: for a type that occurs in the reference table, the reported subtypes are exactly
    the types reachable along HasSubtype, plus the type itself. (`Occurs` is the hypothesis the
    proof forces; the real code indeed returns nothing for an isolated type — finding D-C12a.) -/
theorem subtypes_iff (hst : Nat) (refs : List Ref) (ts : List Nat) (t b : Nat) (ht : Occurs refs t) :
    (t, b) ∈ subtypesOf hst refs ts ↔ t ∈ ts ∧ ReflTransGen (sub hst refs) t b := by
  rw [subtypesOf, List.mem_filter, mem_typingTR_of_occurs hst refs t b (.inl ht),
    List.contains_iff_mem, and_comm]

/-- **supertypes**: symmetric statement against the direction of HasSubtype -/
theorem supertypes_iff (hst : Nat) (refs : List Ref) (ts : List Nat) (a t : Nat) (ht : Occurs refs t) :
    (a, t) ∈ supertypesOf hst refs ts ↔ t ∈ ts ∧ ReflTransGen (sub hst refs) a t := by
  rw [supertypesOf, List.mem_filter, mem_typingTR_of_occurs hst refs a t (.inr ht),
    List.contains_iff_mem, and_comm]

/-- **selection by reference type**: the selected references are exactly those whose type is the
    given type or one of its subtypes — for a selector type that occurs in the type references. -/
theorem constrain_exact (hst : Nat) (typeRefs inst : List Ref) (T : Nat) (r : Ref)
    (hT : Occurs typeRefs T) :
    r ∈ constrain hst typeRefs inst [T] ↔ r ∈ inst ∧ ReflTransGen (sub hst typeRefs) T r.ty := by
  simp only [constrain, List.mem_filter, List.contains_iff_mem, List.mem_map]
  constructor
  · rintro ⟨hr, ⟨a, b⟩, hp, rfl⟩
    have ha : a = T := by simpa using (List.mem_filter.1 hp).2
    subst ha
    exact ⟨hr, ((subtypes_iff hst typeRefs [a] a _ hT).1 hp).2⟩
  · rintro ⟨hr, h⟩
    exact ⟨hr, (T, r.ty), (subtypes_iff hst typeRefs [T] T r.ty hT).2 ⟨by simp, h⟩, rfl⟩

/-- selection never invents or duplicates a reference: it is a sub-list of the input -/
theorem constrain_sublist (hst : Nat) (typeRefs inst : List Ref) (ts : List Nat) :
    (constrain hst typeRefs inst ts).Sublist inst := List.filter_sublist

/-- **modelling-rule variants split the selection**: a selected reference is in the "has no
    modelling rule" variant iff its target is the source of no HasModellingRule reference, and in
    the "has modelling rule" variant iff it is; nothing else is in either. -/
theorem mr_partition (hst : Nat) (typeRefs inst : List Ref) (sel hmr : Nat) (r : Ref) :
    (r ∈ selNoMR hst typeRefs inst sel hmr ↔
        r ∈ constrain hst typeRefs inst [sel] ∧ ¬ ∃ m ∈ constrain hst typeRefs inst [hmr], m.src = r.trg) ∧
    (r ∈ selWithMR hst typeRefs inst sel hmr ↔
        r ∈ constrain hst typeRefs inst [sel] ∧ ∃ m ∈ constrain hst typeRefs inst [hmr], m.src = r.trg) := by
  constructor
  · simp only [selNoMR, List.mem_filter, Bool.not_eq_true', ← Bool.not_eq_true,
      List.contains_iff_mem, List.mem_map]
  · simp only [selWithMR, List.mem_flatMap, List.mem_map, List.mem_filter, decide_eq_true_eq]
    constructor
    · rintro ⟨r', hr', m, ⟨hm, e⟩, rfl⟩; exact ⟨hr', m, hm, e⟩
    · rintro ⟨hr, m, hm, e⟩; exact ⟨r, hr, m, ⟨hm, e⟩, rfl⟩

/-- **circular references**: with no self-loop among the edges (the code asserts this), the
    reported nodes are exactly the nodes lying on a cycle. -/
theorem circular_exact (E : List Edge) (hns : ∀ a, (a, a) ∉ E) (a : Nat) :
    a ∈ circular E ↔ TransGen (edge E) a a := by
  simp only [circular, mem_uniques, List.mem_map, List.mem_filter, List.contains_iff_mem]
  constructor
  · rintro ⟨⟨x, y⟩, ⟨h1, h2⟩, rfl⟩
    exact ((closure_iff_reach E x y).1 h1).2.trans ((closure_iff_reach E y x).1 h2).2
  · intro h
    obtain ⟨c, hac, hca⟩ := TransGen.head'_iff.1 h
    have hne : a ≠ c := by intro e; subst e; exact hns a hac
    have h1 : TransGen (edge E) a c := TransGen.single hac
    have h2 : TransGen (edge E) c a := (reflTransGen_iff_eq_or_transGen.1 hca).resolve_left hne
    exact ⟨(a, c), ⟨(closure_iff_reach E a c).2 ⟨hne, h1⟩,
      (closure_iff_reach E c a).2 ⟨fun e => hne e.symm, h2⟩⟩, rfl⟩

/-! ### non-vacuity (evaluation on concrete graphs) -/
example : (1, 3) ∈ closure [(1,2),(2,3),(3,1),(4,5)] := by decide
example : circular [(1,2),(2,3),(3,1),(4,5)] = [1, 2, 3] := by decide
example : Occurs [⟨10, 11, 45⟩] 10 := ⟨⟨10, 11, 45⟩, by simp, Or.inl rfl⟩
/-- the excluded point of `subtypes_iff`: an isolated type has no reflexive pair (D-C12a) -/
theorem isolated_type_witness : subtypesOf 45 [⟨10, 11, 45⟩] [99] = [] := by decide

end Opcua.C12
