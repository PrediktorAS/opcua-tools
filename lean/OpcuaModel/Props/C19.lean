import OpcuaModel.Model.Proto
import Batteries.Data.List.Basic
/-! # C19 — parsing leaves the input directory as it found it, even when it fails

What one operation does is analysed twice, and nowhere else: `step_shape` for what holds on every
branch of `step`, `seen_step` for the path of a parser that finds the side-file path as it left it.
C20 rests on the same two lemmas. -/
namespace Opcua.C19
open Opcua.Proto

variable {P : Type} [DecidableEq P]

/-- operations left before the parser is done, at most -/
def rank : PC → Nat
  | .start => 9 | .preRead => 8 | .preDecode _ => 7 | .preCreate _ => 6 | .preWrite _ _ => 5
  | .rdOpen => 4 | .fin _ => 3 | .decode _ => 2 | .body _ => 1 | .wclean => 1 | .done _ => 0

/-- a write to one path; `none`: nothing is written -/
def put (fs : FS P) (k : P) : Option (Option File) → FS P
  | none => fs
  | some v => upd fs k v

theorem upd_same (fs : FS P) (k : P) (v : Option File) : upd fs k v k = v := if_pos rfl

theorem upd_other (fs : FS P) (k : P) (v : Option File) {q : P} (h : q ≠ k) : upd fs k v q = fs q :=
  if_neg h

theorem put_same (fs : FS P) (k : P) (w : Option (Option File)) : put fs k w k = w.getD (fs k) := by
  cases w with
  | none => rfl
  | some v => exact upd_same fs k v

theorem put_other (fs : FS P) (k : P) (w : Option (Option File)) {q : P} (h : q ≠ k) :
    put fs k w q = fs q := by
  cases w with
  | none => rfl
  | some v => exact upd_other fs k v h

/-- One operation looks at the parser's own two files only, writes to its side-file path only,
    changes nothing of the parser but its program counter, and that moves down in `rank`. -/
theorem step_shape (S : Sem) (f : Bool) (fs fs' : FS P) (p : Proc P)
    (h1 : fs p.xml = fs' p.xml) (h2 : fs p.side = fs' p.side) :
    ∃ w pc', step S f fs p = (put fs p.side w, p.to pc') ∧ step S f fs' p = (put fs' p.side w, p.to pc') ∧
      rank pc' ≤ rank p.pc - 1 := by
  obtain ⟨pid, x, s, pc⟩ := p
  simp only at h1 h2
  unfold step readXml
  rw [h1, h2]
  -- every branch either writes nothing or writes one value to `s`; the two ranks are numerals, compared by evaluation
  cases pc <;> simp only [Proc.to] <;> (repeat' split) <;>
    first
    | exact ⟨none, _, rfl, rfl, Nat.le_of_ble_eq_true rfl⟩
    | exact ⟨some _, _, rfl, rfl, Nat.le_of_ble_eq_true rfl⟩

theorem step_xml_side (S : Sem) (f : Bool) (fs : FS P) (p : Proc P) :
    (step S f fs p).2.xml = p.xml ∧ (step S f fs p).2.side = p.side := by
  obtain ⟨w, pc', e, _⟩ := step_shape S f fs fs p rfl rfl
  rw [e]
  exact ⟨rfl, rfl⟩

theorem rank_step (S : Sem) (f : Bool) (fs : FS P) (p : Proc P) :
    rank (step S f fs p).2.pc ≤ rank p.pc - 1 := by
  obtain ⟨w, pc', e, _, h⟩ := step_shape S f fs fs p rfl rfl
  rw [e]
  exact h

theorem rank_run (S : Sem) (flt : Nat → Bool) (n i : Nat) (s : FS P × Proc P) :
    rank (runF S flt n i s).2.pc ≤ rank s.2.pc - n := by
  induction n generalizing i s with
  | zero => exact Nat.le_refl _
  | succ n ih =>
    refine Nat.le_trans (ih (i+1) (step S (flt i) s.1 s.2)) ?_
    rw [Nat.add_comm n 1, ← Nat.sub_sub]
    exact Nat.sub_le_sub_right (rank_step S (flt i) s.1 s.2) n

/-- `h` is what `rank_run` gives after `n` operations from rank `k` -/
theorem done_of_rank {pc : PC} {k n : Nat} (h : rank pc ≤ k - n) (hn : k ≤ n) : ∃ r, pc = .done r := by
  rw [Nat.sub_eq_zero_of_le hn] at h
  cases pc with
  | done r => exact ⟨r, rfl⟩
  | _ => cases h

/-- **termination**: whatever fails, the call is over after at most 9 operations -/
theorem run_terminates (S : Sem) (flt : Nat → Bool) (fs : FS P) (x s : P) :
    ∃ r, (runF S flt fuel 0 (fs, start x s)).2.pc = .done r :=
  done_of_rank (rank_run S flt fuel 0 (fs, start x s)) (by decide : 9 ≤ fuel)

omit [DecidableEq P] in
theorem readXml_eq_ok {S : Sem} {fs : FS P} {x : P} {c : Nat} :
    readXml S fs x = .ok c ↔ fs x = some (.doc c) ∧ S.wf c = true := by
  unfold readXml
  constructor
  · intro h
    split at h
    · cases h
    · cases h
    · next c' hx =>
      split at h
      · next hw => cases h; exact ⟨hx, hw⟩
      · cases h
  · rintro ⟨hx, hw⟩
    simp only [hx, hw, if_true]

omit [DecidableEq P] in
theorem loneFile_of_readXml_error {S : Sem} {fs : FS P} {x : P} {e : Err} (h : readXml S fs x = .error e) :
    .err e = loneFile S (fs x) := by
  unfold readXml at h
  split at h
  · next hx => rw [hx]; cases h; rfl
  · next hx => rw [hx]; cases h; rfl
  · next c hx =>
    rw [hx]
    split at h
    · cases h
    · next hw => cases h; simp only [loneFile, lone, hw]; rfl

/-- the operations during which the side file may exist -/
def Open : PC → Bool
  | .preWrite _ _ | .rdOpen | .fin _ | .wclean => true
  | _ => false

/-- what a parser has found out when it is at `pc`: about the document (`fx` is the file at its
    input path) and, between creating and reading its side file, about that file (`sf` is the file
    at the side-file path). `mayFault`: operations may raise. At `rdOpen` the two kinds of fact stand
    side by side, as `C20.Facts` and `C20.OwnerFact` state them. -/
def Seen (S : Sem) (mayFault : Bool) (fx sf : Option File) : PC → Prop
  | .start | .preRead => True
  | .preDecode c => fx = some (.doc c) ∧ S.wf c = true
  | .preCreate h => ∃ c, fx = some (.doc c) ∧ S.wf c = true ∧ S.header c = some h
  | .preWrite h g => (∃ c, fx = some (.doc c) ∧ S.wf c = true ∧ S.header c = some h) ∧ sf = some (.side g none)
  | .wclean => mayFault = true
  | .rdOpen => (∃ c h, fx = some (.doc c) ∧ S.wf c = true ∧ S.header c = some h) ∧
      ∃ g c h, fx = some (.doc c) ∧ S.header c = some h ∧ sf = some (.side g (some h))
  | .fin (.ok l) | .decode l => ∃ c h, fx = some (.doc c) ∧ S.wf c = true ∧ S.header c = some h ∧ l = .hdr (some h)
  | .fin (.error e) => mayFault = true ∧ e = .fault
  | .body ho => ∃ c h, fx = some (.doc c) ∧ S.wf c = true ∧ S.header c = some h ∧ ho = some h
  | .done r => r = loneFile S fx ∨ (mayFault = true ∧ r = .err .fault)

/-- One operation of a parser that finds the side-file path as it left it: free when it checks for
    the file or creates it (`h0`), and as `Seen` says while the file is its own. `Seen` holds
    afterwards; the parser becomes `Open` only by creating the file; and if it is not `Open`
    afterwards, the path is free in case it was `Open` before, and untouched otherwise. -/
theorem seen_step (S : Sem) (mf f : Bool) (hf : f = true → mf = true) (fs : FS P) (p : Proc P)
    (h : Seen S mf (fs p.xml) (fs p.side) p.pc)
    (h0 : (p.pc = .start ∨ ∃ h, p.pc = .preCreate h) → fs p.side = none) :
    Seen S mf (fs p.xml) ((step S f fs p).1 p.side) (step S f fs p).2.pc ∧
    (Open (step S f fs p).2.pc = true → Open p.pc = true ∨ ∃ h, p.pc = .preCreate h) ∧
    (Open (step S f fs p).2.pc = false →
      (step S f fs p).1 p.side = if Open p.pc then none else fs p.side) := by
  obtain ⟨pid, x, s, pc⟩ := p
  -- once `pc` and `f` are known (and what was read, where something is read) `exact` evaluates `step`
  simp only at h h0
  cases pc <;> simp only [step, Proc.to]
  case start =>
    -- raising or not, `isfile` answers that there is no side file
    rw [h0 (Or.inl rfl)]
    cases f <;> exact ⟨trivial, nofun, fun _ => h0 (Or.inl rfl)⟩
  case preRead =>
    cases f with
    | true => exact ⟨Or.inr ⟨hf rfl, rfl⟩, nofun, fun _ => rfl⟩
    | false =>
      cases hr : readXml S fs x with
      | error e => exact ⟨Or.inl (loneFile_of_readXml_error hr), nofun, fun _ => rfl⟩
      | ok c => exact ⟨readXml_eq_ok.1 hr, nofun, fun _ => rfl⟩
  case preDecode c =>
    cases f with
    | true => exact ⟨Or.inr ⟨hf rfl, rfl⟩, nofun, fun _ => rfl⟩
    | false =>
      obtain ⟨hd, hw⟩ := h
      cases hh : S.header c with
      | none => exact ⟨Or.inl (by simp only [hd, loneFile, lone, hw, hh, if_true]), nofun, fun _ => rfl⟩
      | some h => exact ⟨⟨c, hd, hw, hh⟩, nofun, fun _ => rfl⟩
  case preCreate h' =>
    cases f with
    | true => exact ⟨hf rfl, fun _ => Or.inr ⟨_, rfl⟩, nofun⟩
    | false =>
      rw [h0 (Or.inr ⟨_, rfl⟩)]
      exact ⟨⟨h, upd_same ..⟩, fun _ => Or.inr ⟨_, rfl⟩, nofun⟩
  case preWrite h' g =>
    cases f with
    | true => exact ⟨hf rfl, fun _ => Or.inl rfl, nofun⟩
    | false =>
      obtain ⟨⟨c, hd, hw, hh⟩, hs⟩ := h
      simp only [hs, if_true]
      exact ⟨⟨⟨c, h', hd, hw, hh⟩, g, c, h', hd, hh, upd_same ..⟩, fun _ => Or.inl rfl, nofun⟩
  case wclean => exact ⟨Or.inr ⟨h, rfl⟩, nofun, fun _ => upd_same ..⟩
  case rdOpen =>
    cases f with
    | true => exact ⟨⟨hf rfl, rfl⟩, fun _ => Or.inl rfl, nofun⟩
    | false =>
      -- the header found in the side file is the header of the document
      obtain ⟨⟨c, h', hd, hw, hh⟩, g, c', h'', hd', hh', hs⟩ := h
      rw [hd] at hd'
      cases hd'
      rw [hh] at hh'
      cases hh'
      rw [hs]
      exact ⟨⟨c, h', hd, hw, hh, rfl⟩, fun _ => Or.inl rfl, nofun⟩
  case fin r =>
    cases r with
    | error e => exact ⟨Or.inr ⟨h.1, by rw [h.2]⟩, nofun, fun _ => upd_same ..⟩
    | ok l => exact ⟨h, nofun, fun _ => upd_same ..⟩
  case decode l =>
    cases f with
    | true => exact ⟨Or.inr ⟨hf rfl, rfl⟩, nofun, fun _ => rfl⟩
    | false =>
      obtain ⟨c, h', hd, hw, hh, rfl⟩ := h
      exact ⟨⟨c, h', hd, hw, hh, rfl⟩, nofun, fun _ => rfl⟩
  case body ho =>
    cases f with
    | true => exact ⟨Or.inr ⟨hf rfl, rfl⟩, nofun, fun _ => rfl⟩
    | false =>
      obtain ⟨c, h', hd, hw, hh, rfl⟩ := h
      simp only [readXml_eq_ok.2 ⟨hd, hw⟩]
      -- an element that cannot be read or a result: `lone` comes to the same either way
      cases hb : S.body c (some h') <;>
        exact ⟨Or.inl (by simp only [hd, loneFile, lone, hw, hh, hb, if_true]), nofun, fun _ => rfl⟩
  case done r => exact ⟨h, nofun, fun _ => rfl⟩

theorem seen_run (S : Sem) (mf : Bool) (flt : Nat → Bool) (hf : ∀ i, flt i = true → mf = true) (n i : Nat)
    (fs : FS P) (pid : Nat) (x s : P) (pc : PC) (hxs : x ≠ s) (h : Seen S mf (fs x) (fs s) pc)
    (hn : Open pc = false → fs s = none) :
    (∀ q, q ≠ s → (runF S flt n i (fs, ⟨pid, x, s, pc⟩)).1 q = fs q) ∧
    Seen S mf (fs x) ((runF S flt n i (fs, ⟨pid, x, s, pc⟩)).1 s) (runF S flt n i (fs, ⟨pid, x, s, pc⟩)).2.pc ∧
    (Open (runF S flt n i (fs, ⟨pid, x, s, pc⟩)).2.pc = false → (runF S flt n i (fs, ⟨pid, x, s, pc⟩)).1 s = none) := by
  induction n generalizing i fs pc with
  | zero => exact ⟨fun _ _ => rfl, h, hn⟩
  | succ n ih =>
    obtain ⟨h1, _, h3⟩ := seen_step S mf (flt i) (hf i) fs ⟨pid, x, s, pc⟩ h
      (fun e => hn (by rcases e with rfl | ⟨_, rfl⟩ <;> rfl))
    obtain ⟨w, pc', e, _⟩ := step_shape S (flt i) fs fs ⟨pid, x, s, pc⟩ rfl rfl
    simp only [e] at h1 h3
    have hx : put fs s w x = fs x := put_other fs s w hxs
    have hn' : Open pc' = false → put fs s w s = none := fun ho => by
      rw [h3 ho]
      split
      · rfl
      · next hc => exact hn (Bool.eq_false_iff.2 hc)
    obtain ⟨i1, i2, i3⟩ := ih (i+1) (put fs s w) pc' (hx.symm ▸ h1) hn'
    rw [hx] at i2
    rw [runF, e]
    exact ⟨fun q hq => (i1 q hq).trans (put_other fs s w hq), i2, i3⟩

/-- A call that is given at least nine operations, in a directory without its side file, is over:
    with the lone result for what the input path holds or — if operations may raise — with the
    injected failure; and every path holds what it held before. -/
theorem run_done (S : Sem) (mf : Bool) (flt : Nat → Bool) (hf : ∀ i, flt i = true → mf = true)
    (n : Nat) (hn : 9 ≤ n) (fs : FS P) (x s : P) (pid : Nat) (hxs : x ≠ s) (hs : fs s = none) :
    ∃ r, (runF S flt n 0 (fs, start x s pid)).2.pc = .done r ∧
      (r = loneFile S (fs x) ∨ (mf = true ∧ r = .err .fault)) ∧
      ∀ q, (runF S flt n 0 (fs, start x s pid)).1 q = fs q := by
  unfold start
  obtain ⟨r, hr⟩ := done_of_rank (rank_run S flt n 0 (fs, ⟨pid, x, s, .start⟩)) hn
  obtain ⟨hfr, hseen, hnone⟩ := seen_run S mf flt hf n 0 fs pid x s .start hxs trivial fun _ => hs
  rw [hr] at hseen hnone
  refine ⟨r, hr, hseen, fun q => ?_⟩
  by_cases hq : q = s
  · rw [hq, hnone rfl, hs]
  · exact hfr q hq

theorem lone_done (S : Sem) (n : Nat) (hn : 9 ≤ n) (fs : FS P) (x s : P) (pid : Nat) (hxs : x ≠ s)
    (hs : fs s = none) :
    (runF S (oneFault none) n 0 (fs, start x s pid)).2.pc = .done (loneFile S (fs x)) ∧
      ∀ q, (runF S (oneFault none) n 0 (fs, start x s pid)).1 q = fs q := by
  obtain ⟨r, hr, hres, hfs⟩ := run_done S false (oneFault none) (fun _ => nofun) n hn fs x s pid hxs hs
  rcases hres with h | ⟨h, _⟩
  · rw [← h]; exact ⟨hr, hfs⟩
  · cases h

/-- **directory restored, for every set of failing operations**: a call that starts in a
    directory without its side file ends — returning or raising — with every path holding exactly
    what it held before: the input unmodified, no side file, nothing else touched. The outcome is
    the lone result for the file's content, or the injected failure. No assumption on the content. -/
theorem parse_restores (S : Sem) (flt : Nat → Bool) (fs : FS P) (x s : P) (hxs : x ≠ s) (hs : fs s = none) :
    ∃ r, (runF S flt fuel 0 (fs, start x s)).2.pc = .done r ∧
      (r = loneFile S (fs x) ∨ r = .err .fault) ∧
      ∀ q, (runF S flt fuel 0 (fs, start x s)).1 q = fs q := by
  obtain ⟨r, hr, hres, hfs⟩ := run_done S true flt (fun _ _ => rfl) fuel (by decide) fs x s 0 hxs hs
  exact ⟨r, hr, hres.imp_right And.right, hfs⟩

/-- **without a failure the answer is the lone result of the current content** -/
theorem parse_result (S : Sem) (fs : FS P) (x s : P) (hxs : x ≠ s) (hs : fs s = none) :
    (solo S fuel (fs, start x s)).2.pc = .done (loneFile S (fs x)) :=
  (lone_done S fuel (by decide) fs x s 0 hxs hs).1

/-- single fault position, the form the harness enumerates -/
theorem fault_restores (S : Sem) (k : Option Nat) (fs : FS P) (x s : P) (hxs : x ≠ s) (hs : fs s = none) :
    ∃ r, (soloF S k fuel 0 (fs, start x s)).2.pc = .done r ∧
      (r = loneFile S (fs x) ∨ r = .err .fault) ∧
      ∀ q, (soloF S k fuel 0 (fs, start x s)).1 q = fs q :=
  parse_restores S (oneFault k) fs x s hxs hs

/-! ### histories: fail → edit → parse again -/

/-- what is stored at the input path when each parse of a history runs, with its fault position -/
def histSpec : List HOp → Option File → List (Option File × Option Nat)
  | [], _ => []
  | .edit c :: r, _ => histSpec r (some (.doc c))
  | .remove :: r, _ => histSpec r none
  | .parse k :: r, fx => (fx, k) :: histSpec r fx

/-- **no stale data**: along every history of edits, removals and parses with or without a failing
    operation, each parse answers for the content the file has at that moment (or raises the
    injected failure), and the directory never holds a side file between calls -/
theorem history_faithful (S : Sem) (x s : P) (hxs : x ≠ s) (ops : List HOp) (fs : FS P) (hs : fs s = none) :
    (history S x s ops fs).1 s = none ∧
    (∀ q, q ≠ x → (history S x s ops fs).1 q = fs q) ∧
    List.Forall₂ (fun pc (e : Option File × Option Nat) =>
        ∃ r, pc = PC.done r ∧ (r = loneFile S e.1 ∨ (e.2 ≠ none ∧ r = .err .fault)))
      (history S x s ops fs).2 (histSpec ops (fs x)) := by
  induction ops generalizing fs with
  | nil => exact ⟨hs, fun _ _ => rfl, List.Forall₂.nil⟩
  | cons op r ih =>
    -- an edit or a removal stores `v` at the input path, which is not the side-file path
    have write (v : Option File) :=
      have ⟨h1, h2, h3⟩ := ih (upd fs x v) ((upd_other fs x v hxs.symm).trans hs)
      And.intro h1 (And.intro (fun q (hq : q ≠ x) => (h2 q hq).trans (upd_other fs x v hq)) (upd_same fs x v ▸ h3))
    cases op with
    | edit c => exact write (some (.doc c))
    | remove => exact write none
    | parse k =>
      -- the call may raise only if the history gives it a fault position
      obtain ⟨res, hr, hres, hfs⟩ := run_done S k.isSome (oneFault k)
        (fun i h => by cases k with | none => cases h | some _ => rfl) fuel (by decide) fs x s 0 hxs hs
      obtain ⟨h1, h2, h3⟩ := ih (runF S (oneFault k) fuel 0 (fs, start x s)).1 ((hfs s).trans hs)
      rw [hfs x] at h3
      exact ⟨h1, fun q hq => (h2 q hq).trans (hfs q),
        .cons ⟨res, hr, hres.imp_right (And.imp_left Option.isSome_iff_ne_none.1)⟩ h3⟩

/-! ### several files in one call (`parse_xml_files`, `UAGraph.from_path`) -/
theorem parseMany_restores (S : Sem) (side : P → P) (files : List P) (fs : FS P)
    (hne : ∀ x ∈ files, side x ≠ x) (hs : ∀ x ∈ files, fs (side x) = none) :
    ∀ q, (parseMany S side files fs).1 q = fs q := by
  induction files generalizing fs with
  | nil => intro q; rfl
  | cons x r ih =>
    obtain ⟨hnx, hner⟩ := List.forall_mem_cons.1 hne
    obtain ⟨hsx, hsr⟩ := List.forall_mem_cons.1 hs
    obtain ⟨hr, hfs⟩ : (solo S fuel (fs, start x (side x))).2.pc = .done (loneFile S (fs x)) ∧
        ∀ q, (solo S fuel (fs, start x (side x))).1 q = fs q :=
      lone_done S fuel (by decide) fs x (side x) 0 hnx.symm hsx
    intro q
    simp only [parseMany, hr]
    cases loneFile S (fs x) with
    | err e => exact hfs q
    | ok v =>
      exact (ih _ hner (fun y hy => (hfs _).trans (hsr y hy)) q).trans (hfs q)

/-! ### the real naming: the side file of `x` is `x ++ "_parsed.json"`, never `x` itself -/
theorem side_ne (x sfx : List Char) (h : sfx ≠ []) : x ++ sfx ≠ x :=
  fun e => h (List.append_right_eq_self.1 e)

/-! ### non-vacuity: a concrete directory, every single fault position -/
def S0 : Sem := ⟨fun c => c != 13, fun c => if c = 7 then none else some (c + 100), fun c ho => if c = 9 then none else some (c * 1000 + ho.getD 0)⟩
def fs0 : FS Nat := fun p => if p = 0 then some (.doc 5) else if p = 2 then some (.doc 9) else none

example : (solo S0 fuel (fs0, start 0 1)).2.pc matches .done (.ok 5105) := by decide
example : ∀ k ∈ List.range 10, (soloF S0 (some k) fuel 0 (fs0, start 0 1)).1 1 = none := by decide
example : (soloF S0 (some 4) fuel 0 (fs0, start 0 1)).2.pc matches .done (.err .fault) := by decide
example : (solo S0 fuel (fs0, start 2 3)).2.pc matches .done (.err .element) := by decide

end Opcua.C19
