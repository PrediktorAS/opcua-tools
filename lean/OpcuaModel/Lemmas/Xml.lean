import OpcuaModel.Model.Xml
/-! Proofs about XmlLite: escape/decode inverse and safety, lexer segment lemmas, `lex_render`,
builder completeness, and `parseXml_render : WF x → parseXml (render x) = some (strip x)`. Core only. -/
namespace Opcua.Xml
open Opcua

/-- `escText` (`q = false`) and `escAttr` (`q = true`) as one function -/
def esc (q : Bool) : Str → Str
  | [] => []
  | c :: cs =>
    if c = '&' then '&' :: 'a' :: 'm' :: 'p' :: ';' :: esc q cs
    else if c = '<' then '&' :: 'l' :: 't' :: ';' :: esc q cs
    else if c = '>' then '&' :: 'g' :: 't' :: ';' :: esc q cs
    else if q = true ∧ c = '"' then '&' :: 'q' :: 'u' :: 'o' :: 't' :: ';' :: esc q cs
    else c :: esc q cs

theorem escOf_eq_esc (q : Bool) (s : Str) : escOf q s = esc q s := by
  cases q
  · show escText s = esc false s
    induction s with
    | nil => rfl
    | cons c cs ih => simp only [escText, esc, ih, Bool.false_eq_true, false_and, if_false]
  · show escAttr s = esc true s
    induction s with
    | nil => rfl
    | cons c cs ih => simp only [escAttr, esc, ih, true_and]

theorem escOf_spec (q : Bool) (s : Str) :
    decode (escOf q s) = some s ∧ '<' ∉ escOf q s ∧ (q = true → '"' ∉ escOf q s) := by
  rw [escOf_eq_esc]
  induction s with
  | nil => simp [esc, decode]
  | cons c cs ih =>
    obtain ⟨hd, hlt, hq⟩ := ih
    unfold esc
    split
    · next h => subst h; simpa [decode, hd, hlt] using hq
    · split
      · next h => subst h; simpa [decode, hd, hlt] using hq
      · split
        · next h => subst h; simpa [decode, hd, hlt] using hq
        · split
          · next h => obtain ⟨_, rfl⟩ := h; simpa [decode, hd, hlt] using hq
          · next h1 h2 _ h4 =>
            refine ⟨by unfold decode; simp [h1, hd], ?_, fun hqt => ?_⟩
            · simpa [hlt] using Ne.symm h2
            · simpa [hq hqt] using fun h => h4 ⟨hqt, h.symm⟩

theorem decode_escOf (q : Bool) (s : Str) : decode (escOf q s) = some s := (escOf_spec q s).1

theorem decode_escText (s : Str) : decode (escText s) = some s := decode_escOf false s

theorem decode_escAttr (s : Str) : decode (escAttr s) = some s := decode_escOf true s

theorem lt_not_mem_escOf (q : Bool) (s : Str) : '<' ∉ escOf q s := (escOf_spec q s).2.1

theorem quot_not_mem_escAttr (s : Str) : '"' ∉ escAttr s := (escOf_spec true s).2.2 rfl

/-- escaping has a left inverse, so only the empty text is written as nothing -/
theorem escOf_eq_nil {q : Bool} {s : Str} (h : escOf q s = []) : s = [] := by
  have hd := decode_escOf q s
  rw [h, decode.eq_1] at hd
  exact (Option.some.inj hd).symm

/-! ### the lexer, followed through the pieces of a rendered element -/

theorem flush_nil (ts : List Tok) : flush ts [] = some ts := by simp [flush]

theorem flush_escOf (q : Bool) (ts : List Tok) (s : Str) : flush ts (escOf q s) = some (ts ++ textTok s) := by
  unfold flush textTok
  by_cases h : s = []
  · subst h; simp [escOf_eq_esc, esc]
  · have : escOf q s ≠ [] := fun e => h (escOf_eq_nil e)
    simp [this, h, decode_escOf]

theorem run_append (st) (a b : Str) : run st (a ++ b) = run (run st a) b := by
  simp [run, List.foldl_append]

theorem run_cons (st) (c : Char) (s : Str) : run st (c :: s) = run (step st c) s := rfl

theorem run_nil (st) : run st [] = st := rfl

/-- a lexer state that appends each character it accepts and stays where it is -/
theorem run_acc (k : Str → St) {p : Char → Prop} (ts : List Tok)
    (hk : ∀ (n : Str) (c : Char), p c → step (ts, k n) c = (ts, k (n ++ [c])))
    (n s : Str) (h : ∀ c ∈ s, p c) : run (ts, k n) s = (ts, k (n ++ s)) := by
  induction s generalizing n with
  | nil => rw [run_nil, List.append_nil]
  | cons c cs ih =>
    obtain ⟨hc, hcs⟩ := List.forall_mem_cons.1 h
    rw [run_cons, hk n c hc, ih _ hcs, List.append_assoc]
    rfl

theorem run_text (ts : List Tok) (acc s : Str) (h : '<' ∉ s) :
    run (ts, .text acc) s = (ts, .text (acc ++ s)) :=
  run_acc .text ts (fun _ _ hc => if_neg hc) acc s (fun _ hc e => h (e ▸ hc))

theorem run_cname (ts : List Tok) (n s : Str) (h : ∀ c ∈ s, isNameChar c = true) :
    run (ts, .cname n) s = (ts, .cname (n ++ s)) :=
  run_acc .cname ts (fun _ _ hc => if_pos hc) n s h

theorem run_aval (ts : List Tok) (n : Str) (as) (k v s : Str) (h1 : '"' ∉ s) (h2 : '<' ∉ s) :
    run (ts, .aval n as k v) s = (ts, .aval n as k (v ++ s)) :=
  run_acc (.aval n as k) (p := fun c => c ≠ '"' ∧ c ≠ '<') ts (fun _ _ hc => (if_neg hc.1).trans (if_neg hc.2))
    v s (fun _ hc => ⟨fun e => h1 (e ▸ hc), fun e => h2 (e ▸ hc)⟩)

/-- blanks inside a tag are accepted and dropped (`run_acc` with a constant state) -/
theorem run_ws (ts : List Tok) (n : Str) (as) (s : Str) (h : ∀ c ∈ s, isWs c = true) :
    run (ts, .inTag n as) s = (ts, .inTag n as) :=
  run_acc (fun _ => .inTag n as) ts (fun _ _ hc => if_pos hc) [] s h

/-- a name is read whole: its first character takes `st` to the state `k` that collects the rest -/
theorem run_name (k : Str → St) (ts : List Tok) (st : St)
    (hin : ∀ c, isNameChar c = true → step (ts, st) c = (ts, k [c]))
    (hk : ∀ n c, isNameChar c = true → step (ts, k n) c = (ts, k (n ++ [c])))
    {n : Str} (h : NameOK n) : run (ts, st) n = (ts, k n) := by
  obtain ⟨hne, hn⟩ := h
  cases n with
  | nil => exact absurd rfl hne
  | cons c cs =>
    obtain ⟨hc, hcs⟩ := List.forall_mem_cons.1 hn
    rw [run_cons, hin c hc]
    exact run_acc k ts hk [c] cs hcs

theorem ws_not_name {c : Char} (h : isWs c = true) : isNameChar c = false := by
  have : c = ' ' ∨ c = '\n' ∨ c = '\t' := by simpa [isWs, or_assoc] using h
  rcases this with rfl | rfl | rfl <;> decide

theorem name_facts {c : Char} (h : isNameChar c = true) : isWs c = false ∧ c ≠ '>' ∧ c ≠ '/' := by
  refine ⟨?_, ?_, ?_⟩
  · cases hw : isWs c with
    | false => rfl
    | true => rw [ws_not_name hw] at h; cases h
  all_goals (intro e; subst e; revert h; decide)

theorem run_attr (ts : List Tok) (n : Str) (as : List (Str × Str)) (a : PAttr) (h : a.OK) :
    run (ts, .inTag n as) (printAttr a) = (ts, .inTag n (as ++ [(a.k, a.v)])) := by
  have hin : ∀ c, isNameChar c = true → step (ts, .inTag n as) c = (ts, .aname n as [c]) := by
    intro c hc
    obtain ⟨hcw, hc1, hc2⟩ := name_facts hc
    simp only [step, hcw, hc1, hc2, hc, if_true, if_false, Bool.false_eq_true]
  have heq : isNameChar '=' = false := by decide
  unfold printAttr
  simp only [List.append_assoc, List.cons_append, List.nil_append]
  rw [run_append, run_ws ts n as a.ws h.1, run_append, run_name (.aname n as) ts _ hin (fun _ _ hc => if_pos hc) h.2]
  simp only [run_cons, step, heq, if_true, if_false, Bool.false_eq_true]
  rw [run_append, run_aval ts n as _ [] (escAttr a.v) (quot_not_mem_escAttr a.v) (lt_not_mem_escOf true a.v)]
  simp only [run_cons, step, if_true, List.nil_append, decode_escAttr, run_nil]

theorem printAttrs_cons (a : PAttr) (l : List PAttr) : printAttrs (a :: l) = printAttr a ++ printAttrs l :=
  List.flatMap_cons

theorem printAttr_eq (ws k v : Str) : printAttr ⟨ws, k, v⟩ = ws ++ (k ++ ('=' :: '"' :: (escAttr v ++ ['"']))) := by
  simp [printAttr, List.append_assoc]

theorem run_attrs (ts : List Tok) (n : Str) (as : List (Str × Str)) (ps : List PAttr)
    (h : ∀ a ∈ ps, a.OK) :
    run (ts, .inTag n as) (printAttrs ps) = (ts, .inTag n (as ++ ps.map fun a => (a.k, a.v))) := by
  induction ps generalizing as with
  | nil => rw [List.map_nil, List.append_nil]; rfl
  | cons a ps ih =>
    obtain ⟨ha, hps⟩ := List.forall_mem_cons.1 h
    rw [printAttrs_cons, run_append, run_attr ts n as a ha, ih _ hps, List.map_cons, List.append_assoc]
    rfl

/-- the rest of an open tag, read from inside the tag: attributes, blanks, `>` -/
theorem run_tagEnd (ts : List Tok) (n : Str) (ps : List PAttr) (trail : Str)
    (hps : ∀ a ∈ ps, a.OK) (htr : ∀ c ∈ trail, isWs c = true) :
    run (ts, .inTag n []) (printAttrs ps ++ (trail ++ ['>']))
      = (ts ++ [Tok.open n (ps.map fun a => (a.k, a.v))], .text []) := by
  rw [run_append, run_attrs ts n [] ps hps, run_append, run_ws _ _ _ trail htr]
  rfl

/-- once the name has ended, `.oname n` reads on as `.inTag n []` does -/
theorem run_oname_end (ts : List Tok) (n s : Str) (h : ∃ c, s.head? = some c ∧ isNameChar c = false) :
    run (ts, .oname n) s = run (ts, .inTag n []) s := by
  obtain ⟨c, hc, hn⟩ := h
  cases s with
  | nil => cases hc
  | cons d r =>
    cases hc
    simp only [run_cons, step, hn, Bool.false_eq_true, if_false]

theorem tagEnd_head {ps : List PAttr} {trail : Str} (hps : ∀ a ∈ ps, a.OK) (htr : ∀ c ∈ trail, isWs c = true)
    (hhead : ∀ a, ps.head? = some a → a.ws ≠ []) :
    ∃ c, (printAttrs ps ++ (trail ++ ['>'])).head? = some c ∧ isNameChar c = false := by
  cases ps with
  | nil =>
    cases trail with
    | nil => exact ⟨'>', rfl, by decide⟩
    | cons w wt => exact ⟨w, rfl, ws_not_name (htr w (by simp))⟩
  | cons a ps =>
    cases haw : a.ws with
    | nil => exact absurd haw (hhead a rfl)
    | cons w wt =>
      exact ⟨w, by simp [printAttrs, printAttr, haw], ws_not_name ((hps a (by simp)).1 w (by simp [haw]))⟩

theorem run_open (ts : List Tok) (acc : Str) (tag : Str) (ps : List PAttr) (trail : Str)
    (h : OpenOK tag ps trail) (ts' : List Tok) (hf : flush ts acc = some ts') :
    run (ts, .text acc) (printOpen tag ps trail)
      = (ts' ++ [Tok.open tag (ps.map fun a => (a.k, a.v))], .text []) := by
  obtain ⟨hname, hps, htr, hhead⟩ := h
  have hin : ∀ c, isNameChar c = true → step (ts', .lt) c = (ts', .oname [c]) := by
    intro c hc
    simp only [step, (name_facts hc).2.2, hc, if_true, if_false]
  unfold printOpen
  simp only [run_cons, step, if_true, hf]
  rw [run_append, run_name .oname ts' _ hin (fun _ _ hc => if_pos hc) hname,
    run_oname_end _ _ _ (tagEnd_head hps htr hhead)]
  exact run_tagEnd ts' _ ps trail hps htr

theorem run_close (ts : List Tok) (acc : Str) (tag : Str) (h : NameOK tag)
    (ts' : List Tok) (hf : flush ts acc = some ts') :
    run (ts, .text acc) (printClose tag) = (ts' ++ [Tok.close tag], .text []) := by
  obtain ⟨_, hn⟩ := h
  have hgt : isNameChar '>' = false := by decide
  unfold printClose
  simp only [run_cons, step, if_true, hf]
  rw [run_append, run_cname ts' [] tag hn]
  simp only [run_cons, step, hgt, if_true, Bool.false_eq_true, if_false, run_nil, List.nil_append]

mutual
theorem run_render (x : X) (h : WF x) (ts : List Tok) (acc : Str) (ts' : List Tok)
    (hf : flush ts acc = some ts') :
    run (ts, .text acc) (render x) = (ts' ++ tokens (strip x), .text []) := by
  match x, h with
  | .node tag attrs trail qesc text kids, h =>
    obtain ⟨hopen, hkids⟩ := h
    simp only [render, strip, tokens]
    rw [run_append, run_open ts acc tag attrs trail hopen ts' hf,
      run_append, run_text _ [] (escOf qesc text) (lt_not_mem_escOf qesc text)]
    simp only [List.nil_append]
    have hfl := flush_escOf qesc (ts' ++ [Tok.open tag (attrs.map fun a => (a.k, a.v))]) text
    cases kids with
    | nil =>
      simp only [renderS, stripS, tokensS, List.nil_append]
      rw [run_close _ _ tag hopen.1 _ hfl]
      simp
    | cons k ks =>
      rw [run_append, run_renderS (.cons k ks) hkids _ _ _ hfl (by simp),
        run_close _ [] tag hopen.1 _ (flush_nil _)]
      simp
-- `xs ≠ .nil`: with no element to read, the pending text `acc` is not flushed and the state stays `.text acc`
theorem run_renderS (xs : XS) (h : WFS xs) (ts : List Tok) (acc : Str) (ts' : List Tok)
    (hf : flush ts acc = some ts') (hne : xs ≠ .nil) :
    run (ts, .text acc) (renderS xs) = (ts' ++ tokensS (stripS xs), .text []) := by
  match xs, h with
  | .nil, _ => exact absurd rfl hne
  | .cons x rest, h =>
    obtain ⟨hx, hrest⟩ := h
    simp only [renderS, stripS, tokensS]
    rw [run_append, run_render x hx ts acc ts' hf]
    cases rest with
    | nil => simp [renderS, stripS, tokensS, run_nil]
    | cons y ys =>
      rw [run_renderS (.cons y ys) hrest _ [] _ (flush_nil _) (by simp)]
      simp
end

/-- the emitted text lexes to exactly the intended token stream -/
theorem lex_render (x : X) (h : WF x) : lex (render x) = some (tokens (strip x)) := by
  unfold lex
  rw [run_render x h [] [] [] (flush_nil _)]
  simp [flush]

/-! ### the tree builder on the tokens of a tree -/

/-- an empty text leaves no token; `takeText` then reads none back, as long as no text token follows -/
theorem takeText_textTok (s : Str) (rest : List Tok) (hrest : ∀ u r, rest ≠ Tok.text u :: r) :
    takeText (textTok s ++ rest) = (s, rest) := by
  unfold textTok
  by_cases h : s = []
  · subst h
    cases rest with
    | nil => simp [takeText]
    | cons t r =>
      cases t with
      | text u => exact absurd rfl (hrest u r)
      | «open» _ _ => simp [takeText]
      | close _ => simp [takeText]
  · simp [h, takeText]

theorem tokens_ne_text (t : T) (rest : List Tok) : ∀ u r, tokens t ++ rest ≠ Tok.text u :: r := by
  intro u r
  cases t with
  | node tag attrs text kids => simp [tokens]

theorem tokensS_close_ne_text (ks : TS) (tag : Str) (rest : List Tok) :
    ∀ u r, tokensS ks ++ Tok.close tag :: rest ≠ Tok.text u :: r := by
  intro u r
  cases ks with
  | nil => simp [tokensS]
  | cons k ks' =>
    simp only [tokensS, List.append_assoc]
    exact tokens_ne_text k _ u r

mutual
theorem buildNode_tokens (t : T) (rest : List Tok) (f : Nat) (hf : sizeT t ≤ f) :
    buildNode f (tokens t ++ rest) = some (t, rest) := by
  match t with
  | .node tag attrs text kids =>
    cases f with
    | zero => simp [sizeT] at hf
    | succ f =>
      simp only [sizeT] at hf
      simp only [tokens, List.cons_append, List.append_assoc, List.nil_append, buildNode]
      rw [takeText_textTok text _ (tokensS_close_ne_text kids tag rest)]
      simp only
      rw [buildKids_tokens kids tag rest f (by omega)]
      simp
theorem buildKids_tokens (ks : TS) (tag : Str) (rest : List Tok) (f : Nat) (hf : sizeTS ks ≤ f) :
    buildKids f (tokensS ks ++ Tok.close tag :: rest) = some (ks, Tok.close tag :: rest) := by
  match ks with
  | .nil =>
    cases f with
    | zero => simp [sizeTS] at hf
    | succ f => simp [tokensS, buildKids]
  | .cons k ks' =>
    cases f with
    | zero => simp [sizeTS] at hf
    | succ f =>
      simp only [sizeTS] at hf
      have hk := buildNode_tokens k (tokensS ks' ++ Tok.close tag :: rest) f (by omega)
      have hks := buildKids_tokens ks' tag rest f (by omega)
      cases k with
      | node ktag kattrs ktext kkids =>
        simp only [tokensS, List.append_assoc] at hk ⊢
        simp only [tokens, List.cons_append] at hk ⊢
        simp only [buildKids]
        rw [hk]
        simp only
        rw [hks]
end

-- where the fuel `2 * toks.length` of `parseXml` comes from: it covers the size of the tree the tokens came from
mutual
theorem sizeT_le (t : T) : sizeT t + 1 ≤ 2 * (tokens t).length := by
  match t with
  | .node tag attrs text kids =>
    have := sizeTS_le kids
    simp only [sizeT, tokens, List.length_cons, List.length_append, List.length_nil]
    omega
theorem sizeTS_le (ks : TS) : sizeTS ks ≤ 1 + 2 * (tokensS ks).length := by
  match ks with
  | .nil => simp [sizeTS, tokensS]
  | .cons t ts =>
    have h1 := sizeT_le t
    have h2 := sizeTS_le ts
    simp only [sizeTS, tokensS, List.length_append]
    omega
end

/-- reading what the writer emitted gives back exactly the intended
    tree — for every tag/attribute layout the writer uses and every text / attribute content. -/
theorem parseXml_render (x : X) (h : WF x) : parseXml (render x) = some (strip x) := by
  unfold parseXml
  rw [lex_render x h]
  have hb := buildNode_tokens (strip x) [] (2 * (tokens (strip x)).length)
    (by have := sizeT_le (strip x); omega)
  simp only [List.append_nil] at hb
  simp [hb]

/-! ### the layouts the writers use: every attribute after one or two spaces -/

theorem openOK_of {tag : Str} {ps : List PAttr} {trail : Str} (ht : NameOK tag)
    (hps : ∀ a ∈ ps, a.ws ≠ [] ∧ a.OK) (htr : ∀ c ∈ trail, isWs c = true) : OpenOK tag ps trail :=
  ⟨ht, fun a ha => (hps a ha).2, htr, fun a ha => (hps a (List.mem_of_mem_head? ha)).1⟩

theorem pattr_spaces {ws k v : Str} (hws : ws = [' '] ∨ ws = [' ', ' ']) (hk : NameOK k) :
    (PAttr.mk ws k v).ws ≠ [] ∧ (PAttr.mk ws k v).OK := by
  have sp : ∀ c ∈ [' ', ' '], isWs c = true := by decide
  rcases hws with rfl | rfl
  · exact ⟨List.cons_ne_nil _ _, fun c hc => sp c (List.mem_cons_of_mem _ hc), hk⟩
  · exact ⟨List.cons_ne_nil _ _, sp, hk⟩

-- non-vacuity: a concrete hostile element satisfies `WF`, so `parseXml_render` applies to it
def demo : X :=
  .node "UAObject".toList
    [⟨[' '], "NodeId".toList, "ns=1;s=a\"b<&".toList⟩, ⟨[' ', ' '], "BrowseName".toList, "1:q".toList⟩] [' '] false
    [] (.cons (.node "DisplayName".toList [] [] false "a<b & c>".toList .nil) .nil)

theorem demo_WF : WF demo := by
  refine ⟨openOK_of (by decide) ?_ (by decide), ⟨openOK_of (by decide) nofun nofun, trivial⟩, trivial⟩
  exact List.forall_mem_cons.2 ⟨pattr_spaces (.inl rfl) (by decide),
    List.forall_mem_singleton.2 (pattr_spaces (.inr rfl) (by decide))⟩

example : parseXml (render demo) = some (strip demo) := parseXml_render demo demo_WF

end Opcua.Xml
