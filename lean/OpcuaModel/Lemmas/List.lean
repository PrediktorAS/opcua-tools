import OpcuaModel.Model.Graph
/-! Lemmas about the list primitives the tables are built from: `uniques` (`pd.factorize`: first
occurrences, in order), positions (`idxOf`) and association lists (`lookup`). -/
namespace Opcua

theorem getElem?_idxOf {α} [BEq α] [LawfulBEq α] {l : List α} {a : α} (h : a ∈ l) : l[l.idxOf a]? = some a := by
  rw [List.getElem?_eq_getElem (List.idxOf_lt_length_of_mem h), List.getElem_idxOf]

theorem mem_of_lookup {α β} [DecidableEq α] {k : α} {v : β} {l : List (α × β)} (h : lookup k l = some v) :
    (k, v) ∈ l := by
  induction l with
  | nil => cases h
  | cons p ps ih =>
    obtain ⟨a, b⟩ := p
    unfold lookup at h
    split at h
    · next e => cases h; exact e ▸ List.mem_cons_self
    · exact List.mem_cons_of_mem _ (ih h)

/-- `k in d` for a dict held as an association list -/
theorem mem_keys_iff {α β} [DecidableEq α] (k : α) (l : List (α × β)) : k ∈ l.map Prod.fst ↔ (lookup k l).isSome = true := by
  induction l with
  | nil => simp [lookup]
  | cons p ps ih =>
    rw [List.map_cons, List.mem_cons, lookup, ih]
    by_cases h : p.1 = k
    · simp [h]
    · simp [h, Ne.symm h]

theorem getElem?_of_prefix {α} {l₁ l₂ : List α} (h : l₁ <+: l₂) {i : Nat} (hi : i < l₁.length) :
    l₂[i]? = l₁[i]? := by
  obtain ⟨t, rfl⟩ := h
  exact List.getElem?_append_left hi

theorem head?_of_prefix {α} {l₁ l₂ : List α} {a : α} (hp : l₁ <+: l₂) (h : l₁.head? = some a) : l₂.head? = some a :=
  List.singleton_prefix_iff_head?_eq_some.1 ((List.singleton_prefix_iff_head?_eq_some.2 h).trans hp)

theorem lookup_append_none {α β} [DecidableEq α] (k : α) (m : List (α × β)) (p : α × β) (h : lookup k m = none) :
    lookup k (m ++ [p]) = if p.1 = k then some p.2 else none := by
  induction m with
  | nil => rfl
  | cons q r ih =>
    rw [lookup] at h
    split at h
    · cases h
    · next e => rw [List.cons_append, lookup, if_neg e, ih h]

theorem mem_uniques {α} [DecidableEq α] (l : List α) (a : α) : a ∈ uniques l ↔ a ∈ l := by
  induction l with
  | nil => exact Iff.rfl
  | cons x xs ih => by_cases e : a = x <;> simp [uniques, ih, e]

theorem nodup_uniques {α} [DecidableEq α] (l : List α) : (uniques l).Nodup := by
  induction l with
  | nil => exact List.nodup_nil
  | cons x xs ih => exact List.nodup_cons.2 ⟨by simp [List.mem_filter], ih.filter _⟩

theorem uniques_of_nodup {α} [DecidableEq α] {l : List α} (h : l.Nodup) : uniques l = l := by
  induction l with
  | nil => rfl
  | cons x xs ih =>
    obtain ⟨hx, hxs⟩ := List.nodup_cons.1 h
    have hf : xs.filter (· ≠ x) = xs :=
      List.filter_eq_self.2 fun y hy => decide_eq_true fun e => hx (e ▸ hy)
    rw [uniques, ih hxs, hf]

end Opcua
