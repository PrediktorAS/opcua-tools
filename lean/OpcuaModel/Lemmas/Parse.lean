import OpcuaModel.Lemmas.MapE
import OpcuaModel.Lemmas.Str
/-! Lemmas about the parse model: `addUri` (append unless present), `splitAll` through `split1`, the fixed-width cast,
the batch-free equation of `parseDoc`, and the inversions of `parseDoc`, `parseFilesAux` and `parseFiles` (C01, C02 and
C18 start from them). -/
namespace Opcua

/-- (`insertSet` of the metadata helpers is the same function) -/
theorem mem_addUri {e : List Str} {n y : Str} : y ∈ addUri e n ↔ y ∈ e ∨ y = n := by
  unfold addUri
  split
  · next h => exact ⟨Or.inl, fun h' => h'.elim id (· ▸ h)⟩
  · simp

theorem addUri_prefix (e : List Str) (n : Str) : e <+: addUri e n := by
  unfold addUri; split
  · exact List.prefix_refl _
  · exact List.prefix_append _ _

theorem addUri_nodup (e : List Str) (n : Str) (h : e.Nodup) : (addUri e n).Nodup := by
  unfold addUri; split
  · exact h
  · next hn => exact (List.perm_append_singleton n e).nodup_iff.2 (List.nodup_cons.2 ⟨hn, h⟩)

/-- `s.split(sep)` cuts at the first separator as `split1` does, and goes on behind it -/
theorem splitAllAux_eq (sep : Char) (cur s : Str) :
    splitAllAux sep cur s =
      match split1 sep s with
      | (a, none) => [cur.reverse ++ a]
      | (a, some b) => (cur.reverse ++ a) :: splitAll sep b := by
  induction s generalizing cur with
  | nil => simp [splitAllAux, split1]
  | cons c cs ih =>
    rw [splitAllAux, split1]
    split
    · simp [splitAll]
    · rw [ih]
      rcases split1 sep cs with ⟨a, _ | b⟩ <;> simp

theorem splitAll_append (sep : Char) (a rest : Str) (h : sep ∉ a) :
    splitAll sep (a ++ sep :: rest) = a :: splitAll sep rest := by
  rw [splitAll, splitAllAux_eq, split1_append sep a rest h]; rfl

theorem splitAll_none (sep : Char) (a : Str) (h : sep ∉ a) : splitAll sep a = [a] := by
  rw [splitAll, splitAllAux_eq, split1_none sep a h]; rfl

/-- inside the signed range of its width the fixed-width cast is the identity (outside it wraps: finding D-C01c) -/
theorem wrapInt_id {bits : Nat} (hb : 0 < bits) {i : Int} (h1 : -(2 : Int) ^ (bits - 1) ≤ i) (h2 : i < 2 ^ (bits - 1)) :
    wrapInt bits i = i := by
  have hm : (2 : Int) ^ bits = 2 ^ (bits - 1) + 2 ^ (bits - 1) := by
    rw [← Int.two_mul, ← Int.pow_succ', Nat.sub_add_cancel hb]
  have e : (i + 2 ^ (bits - 1)) % 2 ^ bits = i + 2 ^ (bits - 1) := Int.emod_eq_of_lt (by omega) (by omega)
  simp only [wrapInt]
  rw [e, Int.add_emod_right, e]
  omega

theorem batches_flatten {α} (k : Nat) (l : List α) : (batches k l).flatten = l := by
  fun_induction batches k l with
  | case1 => rfl
  | case2 => exact List.append_nil _
  | case3 l _ ih => rw [List.flatten_cons, ih, List.take_append_drop]

/-- `parseDoc` without the batching: the rows are those of one pass over the node elements -/
theorem parseDoc_eq (g : List Str) (d : Doc) (k : Nat) :
    parseDoc g d k =
      let nsmap := nsMapOf (extendNs (withUA g) d.uris).2
      match aliasTable nsmap d.aliases with
      | .error e => .error e
      | .ok al =>
        if d.nodes = [] then .error .valueError
        else
          match mapE (parseNode nsmap al) d.nodes with
          | .error e => .error e
          | .ok rows =>
            match mapE (fun q => mapE (parseRef nsmap al q.2.nodeId) q.1.refs) (d.nodes.zip rows) with
            | .error e => .error e
            | .ok trips => .ok ((extendNs (withUA g) d.uris).1, ⟨rows, dedup trips.flatten, d.models⟩) := by
  simp only [parseDoc]
  cases aliasTable (nsMapOf (extendNs (withUA g) d.uris).2) d.aliases with
  | error e => rfl
  | ok al =>
    have h := mapE_flatten (parseNode (nsMapOf (extendNs (withUA g) d.uris).2) al) (batches k d.nodes)
    rw [batches_flatten] at h
    simp only [h]
    cases mapE (mapE (parseNode (nsMapOf (extendNs (withUA g) d.uris).2) al)) (batches k d.nodes) <;> rfl

theorem parseDoc_inv {g : List Str} {d : Doc} {k : Nat} {g1 : List Str} {p : ParsedDoc}
    (h : parseDoc g d k = .ok (g1, p)) :
    let nsmap := nsMapOf (extendNs (withUA g) d.uris).2
    ∃ al rows trips,
      aliasTable nsmap d.aliases = .ok al ∧ d.nodes ≠ [] ∧ mapE (parseNode nsmap al) d.nodes = .ok rows ∧
      mapE (fun q => mapE (parseRef nsmap al q.2.nodeId) q.1.refs) (d.nodes.zip rows) = .ok trips ∧
      g1 = (extendNs (withUA g) d.uris).1 ∧ p = ⟨rows, dedup trips.flatten, d.models⟩ := by
  rw [parseDoc_eq] at h
  simp only at h
  split at h
  · cases h
  · next al hal =>
    split at h
    · cases h
    · next hne =>
      split at h
      · cases h
      · next rows hrows =>
        split at h
        · cases h
        · next trips htr => cases h; exact ⟨al, rows, trips, hal, hne, hrows, htr, rfl, rfl⟩

theorem parseFilesAux_cons_inv {g : List Str} {d : Doc} {ds : List Doc} {r : ParseOut}
    (h : parseFilesAux g (d :: ds) = .ok r) :
    ∃ g1 p r', parseDoc g d = .ok (g1, p) ∧ parseFilesAux g1 ds = .ok r' ∧
      r = ⟨r'.namespaces, p.nodes ++ r'.nodes, p.refs ++ r'.refs, p.models ++ r'.models⟩ := by
  unfold parseFilesAux at h
  split at h
  · cases h
  · next g1 p hp =>
    split at h
    · cases h
    · next r' hr' => cases h; exact ⟨g1, p, r', hp, hr', rfl⟩

/-- (a successful `parseFiles` also had `docs ≠ []`; no user needs that) -/
theorem parseFiles_inv {caller : List Str} {docs : List Doc} {r : ParseOut}
    (h : parseFiles caller docs = .ok r) :
    ∃ raw, parseFilesAux caller docs = .ok raw ∧ r = { raw with refs := dedup raw.refs } := by
  unfold parseFiles at h
  split at h
  · cases h
  · split at h
    · cases h
    · next raw hraw => cases h; exact ⟨raw, hraw, rfl⟩

end Opcua
