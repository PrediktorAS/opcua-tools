import OpcuaModel.Model.Parse
import Batteries.Data.List.Basic
/-! Lemmas about `mapE` (list comprehension with exceptions). Core and `List.Forall₂` only.

A successful `mapE f l = .ok ys` is the element-wise relation `f a = .ok b` between `l` and `ys`
(`mapE_ok_forall`); length, membership and what `f` guarantees per element follow from that. -/
namespace Opcua

theorem forall₂_imp {α β} {R S : α → β → Prop} {l : List α} {ys : List β} (h : List.Forall₂ R l ys)
    (H : ∀ a b, R a b → S a b) : List.Forall₂ S l ys := by
  induction h with
  | nil => exact .nil
  | cons hab _ ih => exact .cons (H _ _ hab) ih

theorem forall₂_refl {α} {R : α → α → Prop} (h : ∀ a, R a a) (l : List α) : List.Forall₂ R l l := by
  induction l with
  | nil => exact .nil
  | cons a as ih => exact .cons (h a) ih

theorem forall₂_map_eq {α β γ} {f : α → γ} {g : β → γ} {l : List α} {ys : List β}
    (h : List.Forall₂ (fun a b => f a = g b) l ys) : l.map f = ys.map g := by
  induction h with
  | nil => rfl
  | cons hab _ ih => rw [List.map_cons, List.map_cons, hab, ih]

theorem mapE_ok_forall {α β ε} {f : α → Except ε β} {l : List α} {ys : List β}
    (h : mapE f l = .ok ys) : List.Forall₂ (fun a b => f a = .ok b) l ys := by
  induction l generalizing ys with
  | nil => cases h; exact .nil
  | cons a as ih =>
    unfold mapE at h
    split at h
    · cases h
    · next b hb =>
      split at h
      · cases h
      · next bs hbs => cases h; exact .cons hb (ih hbs)

theorem mapE_of_forall {α β ε} {f : α → Except ε β} {l : List α} {ys : List β}
    (h : List.Forall₂ (fun a b => f a = .ok b) l ys) : mapE f l = .ok ys := by
  induction h with
  | nil => rfl
  | cons hf _ ih => simp only [mapE, hf, ih]

theorem mapE_ok_map {α β ε} {f : α → Except ε β} {l : List α} {ys : List β}
    (h : mapE f l = .ok ys) : l.map f = ys.map .ok :=
  forall₂_map_eq (mapE_ok_forall h)

theorem mapE_ok_length {α β ε} {f : α → Except ε β} {l : List α} {ys : List β}
    (h : mapE f l = .ok ys) : ys.length = l.length := by
  rw [← List.length_map (f := Except.ok), ← mapE_ok_map h, List.length_map]

theorem mapE_ok_mem {α β ε} {f : α → Except ε β} {l : List α} {ys : List β} (h : mapE f l = .ok ys) (b : β) :
    b ∈ ys ↔ ∃ a ∈ l, f a = .ok b := by
  rw [← List.mem_map, mapE_ok_map h]
  simp

theorem mapE_ok_of_mem {α β ε} {f : α → Except ε β} {l : List α} {ys : List β} (h : mapE f l = .ok ys)
    {a : α} (ha : a ∈ l) : ∃ b ∈ ys, f a = .ok b := by
  have hm : f a ∈ ys.map .ok := mapE_ok_map h ▸ List.mem_map_of_mem ha
  obtain ⟨b, hb, e⟩ := List.mem_map.1 hm
  exact ⟨b, hb, e.symm⟩

theorem mapE_append {α β ε} (f : α → Except ε β) (l₁ l₂ : List α) :
    mapE f (l₁ ++ l₂) =
      match mapE f l₁ with
      | .error e => .error e
      | .ok xs => match mapE f l₂ with
        | .error e => .error e
        | .ok ys => .ok (xs ++ ys) := by
  induction l₁ with
  | nil => cases h : mapE f l₂ <;> simp [mapE, h]
  | cons a as ih =>
    simp only [List.cons_append, mapE, ih]
    cases f a <;> cases mapE f as <;> cases mapE f l₂ <;> rfl

theorem mapE_flatten {α β ε} (f : α → Except ε β) (ls : List (List α)) :
    mapE f ls.flatten =
      match mapE (mapE f) ls with
      | .error e => .error e
      | .ok yss => .ok yss.flatten := by
  induction ls with
  | nil => rfl
  | cons l rest ih =>
    simp only [List.flatten_cons, mapE_append, mapE, ih]
    cases mapE f l <;> cases mapE (mapE f) rest <;> rfl

end Opcua
