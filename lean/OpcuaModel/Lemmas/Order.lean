import OpcuaModel.Model.Order
/-! Strict total orders and their lexicographic / option / key liftings. Core only. -/
namespace Opcua

/-- strict total order, Boolean-valued -/
structure STO {α} (lt : α → α → Bool) : Prop where
  irrefl : ∀ a, lt a a = false
  trans : ∀ a b c, lt a b = true → lt b c = true → lt a c = true
  tri : ∀ a b, lt a b = true ∨ lt b a = true ∨ a = b

section
variable {α : Type _} {lt : α → α → Bool}

theorem STO.ne (h : STO lt) {a b : α} (h1 : lt a b = true) : a ≠ b := by
  rintro rfl
  rw [h.irrefl] at h1
  exact Bool.false_ne_true h1

theorem STO.asymm (h : STO lt) (a b : α) (h1 : lt a b = true) : lt b a = false :=
  Bool.eq_false_iff.2 fun h2 => h.ne (h.trans a b a h1 h2) rfl

theorem STO.cases (h : STO lt) (a b : α) :
    (lt a b = true ∧ lt b a = false ∧ a ≠ b) ∨
    (lt a b = false ∧ lt b a = true ∧ a ≠ b) ∨
    (lt a b = false ∧ lt b a = false ∧ a = b) := by
  rcases h.tri a b with t | t | rfl
  · exact .inl ⟨t, h.asymm a b t, h.ne t⟩
  · exact .inr (.inl ⟨h.asymm b a t, t, (h.ne t).symm⟩)
  · exact .inr (.inr ⟨h.irrefl a, h.irrefl a, rfl⟩)

theorem STO.comap {β} (h : STO lt) (f : β → α) (inj : ∀ a b, f a = f b → a = b) :
    STO fun a b => lt (f a) (f b) where
  irrefl a := h.irrefl (f a)
  trans a b c := h.trans (f a) (f b) (f c)
  tri a b := (h.tri (f a) (f b)).imp_right (Or.imp_right (inj a b))

theorem charLt_sto : STO charLt :=
  STO.comap (lt := fun m n : Nat => decide (m < n))
    { irrefl := by simp
      trans := by
        simp only [decide_eq_true_eq]
        omega
      tri := by
        simp only [decide_eq_true_eq]
        omega }
    Char.toNat fun _ _ e => Char.ext (UInt32.toNat_inj.1 e)

theorem lexLt_cons (h : STO lt) (a b : α) (as bs : List α) :
    lexLt lt (a :: as) (b :: bs) = true ↔ lt a b = true ∨ a = b ∧ lexLt lt as bs = true := by
  simp only [lexLt]
  rcases h.cases a b with ⟨t, t', e⟩ | ⟨t, t', e⟩ | ⟨t, t', rfl⟩ <;> simp [*]

/-- Python's `<` on `str`, and on rows -/
theorem lexLt_sto (h : STO lt) : STO (lexLt lt) where
  irrefl a := by
    induction a with
    | nil => rfl
    | cons c cs ih => simp [lexLt, h.irrefl, ih]
  trans a b c h1 h2 := by
    induction a generalizing b c with
    | nil => cases b <;> cases c <;> simp_all [lexLt]
    | cons x xs ih =>
      cases b with
      | nil => simp [lexLt] at h1
      | cons y ys =>
        cases c with
        | nil => simp [lexLt] at h2
        | cons z zs =>
          rw [lexLt_cons h] at h1 h2 ⊢
          rcases h1 with h1 | ⟨rfl, h1⟩
          · rcases h2 with h2 | ⟨rfl, _⟩
            · exact .inl (h.trans x y z h1 h2)
            · exact .inl h1
          · rcases h2 with h2 | ⟨rfl, h2⟩
            · exact .inl h2
            · exact .inr ⟨rfl, ih ys zs h1 h2⟩
  tri a b := by
    induction a generalizing b with
    | nil => cases b <;> simp [lexLt]
    | cons c cs ih =>
      cases b with
      | nil => simp [lexLt]
      | cons d ds =>
        rw [lexLt_cons h, lexLt_cons h]
        rcases h.tri c d with t | t | rfl
        · simp [t]
        · simp [t]
        · simpa [h.irrefl] using ih ds

theorem slt_sto : STO slt := lexLt_sto charLt_sto

theorem sle_iff (a b : Str) : sle a b = !slt b a := by
  unfold sle
  rcases slt_sto.cases a b with ⟨t, t', e⟩ | ⟨t, t', e⟩ | ⟨t, t', rfl⟩ <;> simp [*]

theorem optLt_sto (h : STO lt) : STO (optLt lt) where
  irrefl := by intro a; cases a <;> simp [optLt, h.irrefl]
  trans a b c h1 h2 := by
    match a, b, c with
    | none, _, _ => cases h1
    | some _, none, _ => cases h2
    | some _, some _, none => rfl
    | some x, some y, some z => exact h.trans x y z h1 h2
  tri := by
    intro a b
    cases a <;> cases b <;> simp [optLt]
    exact h.tri _ _

theorem keyLt_eq_lexLt : Key.lt = fun a b => lexLt slt [a.cls, a.rep] [b.cls, b.rep] := by
  funext a b
  rw [Bool.eq_iff_iff, lexLt_cons slt_sto, lexLt_cons slt_sto, Key.lt]
  by_cases hc : a.cls = b.cls
  · simp [hc, slt_sto.irrefl, lexLt]
  · simp [hc]

theorem keyLt_sto : STO Key.lt :=
  keyLt_eq_lexLt ▸ (lexLt_sto slt_sto).comap (fun k : Key => [k.cls, k.rep])
    (by rintro ⟨_, _⟩ ⟨_, _⟩ e; simpa using e)

theorem rowLt_sto : STO rowLt := lexLt_sto (optLt_sto keyLt_sto)

theorem mergeSort_canonical (h : STO lt) (l₁ l₂ : List α) (hp : l₁.Perm l₂) :
    l₁.mergeSort (fun a b => !lt b a) = l₂.mergeSort (fun a b => !lt b a) := by
  -- `!lt b a` as `a ≤ b` is total, transitive and antisymmetric
  have total (a b : α) : (!lt b a || !lt a b) = true := by
    cases hb : lt b a with
    | false => rfl
    | true => simp [h.asymm b a hb]
  have trans (a b c : α) (h1 : (!lt b a) = true) (h2 : (!lt c b) = true) : (!lt c a) = true := by
    simp only [Bool.not_eq_true', ← Bool.not_eq_true] at h1 h2 ⊢
    intro hca
    rcases h.tri a b with t | t | rfl
    · exact h2 (h.trans c a b hca t)
    · exact h1 t
    · exact h2 hca
  have antisymm (a b : α) (h1 : (!lt b a) = true) (h2 : (!lt a b) = true) : a = b := by
    simp only [Bool.not_eq_true', ← Bool.not_eq_true] at h1 h2
    exact ((h.tri a b).resolve_left h2).resolve_left h1
  have sorted (l : List α) := List.pairwise_mergeSort (le := fun a b => !lt b a) trans total l
  exact List.Perm.eq_of_pairwise (fun a b _ _ => antisymm a b) (sorted l₁) (sorted l₂)
    ((List.mergeSort_perm l₁ _).trans (hp.trans (List.mergeSort_perm l₂ _).symm))
end

end Opcua
