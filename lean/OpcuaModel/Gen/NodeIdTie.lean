import OpcuaModel.Gen.NodeIdGen
import OpcuaModel.Props.C09
import OpcuaModel.Props.C03
import OpcuaModel.Props.C10
/-! # Tie (A): the definitions GENERATED from the Python source (`Gen/NodeIdGen.lean`) are equal to the hand model —
the NodeId kernel, the two namespace-table loops and the value encoders — so the C03, C08, C09 and C10 theorems
about those definitions are theorems about the code as written.  This file is re-checked against a freshly
generated `NodeIdGen` on every run of the C03 / C08 / C09 / C10 checks. -/
namespace Opcua.Tie
open Opcua

theorem cachedParse_eq (s : Str) : Gen.cached_parse_nodeid s = cachedParse s := by
  unfold Gen.cached_parse_nodeid cachedParse nsPrefixed
  by_cases hp : startsWith (lstrip s) ['n', 's', '='] = true
  · simp only [hp, if_true]
    rcases h1 : split1 ';' s with ⟨a, ra⟩
    rcases h3 : split1 '=' a with ⟨c, rc⟩
    cases rc with
    | none => cases ra <;> simp [pySplit1, pyIndex, bindE, h1, h3]
    | some k =>
      cases hk : pyInt k with
      | none => cases ra <;> simp [pySplit1, pyIndex, bindE, pyIntE, h1, h3, hk]
      | some n =>
        cases ra with
        | none => simp [pySplit1, pyIndex, bindE, pyIntE, h1, h3, hk]
        | some rest =>
          rcases h4 : split1 '=' rest with ⟨t, rv⟩
          cases rv with
          | none => simp [pySplit1, pyIndex, pyUnpack2, bindE, pyIntE, h1, h3, hk, h4]
          | some v =>
            cases ht : IdType.ofStr t <;>
              simp [pySplit1, pyIndex, pyUnpack2, bindE, pyIntE, IdType.ofStrE, pyStr, h1, h3, hk, h4, ht]
  · simp only [hp, if_false, Bool.false_eq_true]
    rcases h2 : split1 '=' s with ⟨t, rv⟩
    cases rv with
    | none => simp [pySplit1, pyLen, h2]
    | some v =>
      cases ht : IdType.ofStr t <;> simp [pySplit1, pyLen, pyIndex, bindE, IdType.ofStrE, pyStr, h2, ht]

theorem bindE_pure {ε α : Type} (x : Except ε α) : bindE x .ok = x := by cases x <;> rfl

/-- an absent namespace map (`None`) and an empty one are both "no mapping" (`if namespace_map:`) -/
theorem parseNodeId_eq (s : Str) (om : Option (List (Int × Int))) (al : Option (List (Str × NodeId))) :
    Gen.parse_nodeid s om al = parseNodeId s (om.getD []) al := by
  unfold Gen.parse_nodeid parseNodeId
  have halias : (pyIsSome al && pyDictHas al s) = (al.bind (lookup s)).isSome := by cases al <;> rfl
  simp only [cachedParse_eq, bindE_pure, halias]
  cases hl : al.bind (lookup s) with
  | some n =>
    rcases al with _ | l
    · simp at hl
    · simp only [Option.bind_some] at hl
      simp [pyDictGet, hl]
  | none =>
    rcases cachedParse s with e | ⟨ns, ty, v⟩
    · cases om <;> simp [bindE]
    · rcases om with _ | _ | ⟨p, ps⟩
      · simp [bindE, pyTruthy]
      · simp [bindE, pyTruthy]
      · cases hg : lookup ns (p :: ps) <;> simp [bindE, pyTruthy, pyDictGet, hg]

theorem parseNodeId_some_eq (s : Str) (m : List (Int × Int)) (al : Option (List (Str × NodeId))) :
    Gen.parse_nodeid s (some m) al = parseNodeId s m al := parseNodeId_eq s (some m) al

theorem parseNodeId_none_eq (s : Str) (al : Option (List (Str × NodeId))) :
    Gen.parse_nodeid s none al = parseNodeId s [] al := parseNodeId_eq s none al

theorem print_eq (n : NodeId) : Gen.nodeid_str n = .ok n.print := by
  unfold Gen.nodeid_str NodeId.print
  by_cases h : n.ns = 0 <;> simp [h, pyFormat, PyFormat.fmt, pyEnumValue]

/-! ### the C09 theorems, restated for the definitions generated from the source -/

/-- **round trip, about the code as written**: printing a valid NodeId with the generated `__str__`
    and parsing the text with the generated `parse_nodeid` (no map, no aliases) gives it back -/
theorem gen_parse_print (n : NodeId) (hv : n.Valid) :
    bindE (Gen.nodeid_str n) (fun t => Gen.parse_nodeid t none none) = .ok n := by
  rw [print_eq]; simp only [bindE]; rw [parseNodeId_none_eq]
  exact C09.parse_print n hv

/-- with a namespace map: the local index is replaced by its image -/
theorem gen_parse_mapped (n : NodeId) (m : List (Int × Int)) (hm : m ≠ []) (g : Int)
    (hg : lookup n.ns m = some g) (hv : n.Valid) :
    bindE (Gen.nodeid_str n) (fun t => Gen.parse_nodeid t (some m) none) = .ok { n with ns := g } := by
  rw [print_eq]; simp only [bindE]; rw [parseNodeId_some_eq]
  exact C09.parse_mapped n m hm g hg hv

/-! ### `extend_namespace_map` -/
/-- the loop of `extend_namespace_map` from local index `j + 1` on, for any body `f` that does what the generated body
    does (`hf`); `hm`: no key from `j + 1` on is bound yet, so every `d[k] = v` appends -/
theorem go_spec {f : Nat → Str → List Str × List (Int × Int) → Except PyErr (List Str × List (Int × Int))}
    (hf : ∀ i n ex m, f i n (ex, m) = .ok (addUri ex n, pyDictSet m (((i : Nat) : Int) + 1) (((addUri ex n).idxOf n : Nat) : Int)))
    (uris : List Str) (j : Nat) (ex : List Str) (m : List (Int × Int))
    (hm : ∀ k : Int, ((j : Nat) : Int) + 1 ≤ k → lookup k m = none) :
    pyEnumFoldE.go f j uris (ex, m) = .ok ((extendNs ex uris).1, m ++ C03.tailFrom j (extendNs ex uris).2) := by
  induction uris generalizing j ex m with
  | nil => simp [pyEnumFoldE.go, extendNs, C03.tailFrom]
  | cons n rest ih =>
    have hnone : lookup (((j : Nat) : Int) + 1) m = none := hm _ (Int.le_refl _)
    have hset : pyDictSet m (((j : Nat) : Int) + 1) (((addUri ex n).idxOf n : Nat) : Int) =
        m ++ [(((j : Nat) : Int) + 1, (((addUri ex n).idxOf n : Nat) : Int))] := by
      simp [pyDictSet, hnone]
    simp only [pyEnumFoldE.go, hf, hset]
    have hm' : ∀ k : Int, (((j + 1 : Nat) : Nat) : Int) + 1 ≤ k →
        lookup k (m ++ [(((j : Nat) : Int) + 1, (((addUri ex n).idxOf n : Nat) : Int))]) = none := by
      intro k hk
      have h1 : lookup k m = none := hm k (by omega)
      rw [lookup_append_none k m _ h1]
      have : ¬ (((j : Nat) : Int) + 1 = k) := by omega
      simp [this]
    rw [ih (j + 1) (addUri ex n) _ hm']
    simp [extendNs, C03.tailFrom_cons, List.append_assoc]

/-- **tie (A) for `extend_namespace_map`**: the definition generated from the source, started with the
    map `{0: 0}` as `iterparse_xml` does, returns the global list and the namespace map of the hand
    model — so the C03 theorems are theorems about the code as written -/
theorem extend_eq (e uris : List Str) :
    Gen.extend_namespace_map e uris [(0, 0)] = .ok (nsMapOf (extendNs e uris).2, (extendNs e uris).1) := by
  unfold Gen.extend_namespace_map
  have h0 : pyContains ([((0 : Int), (0 : Int))] : List (Int × Int)) (0 : Int) = true := by decide
  simp only [h0, Bool.not_true, Bool.false_eq_true, if_false, bindE, pyEnumFoldE]
  rw [go_spec (f := _) ?_ uris 0 e [(0, 0)] ?_]
  · simp [C03.nsMapOf_eq]
  · intro i n ex m
    by_cases hmem : n ∈ ex
    · simp [pyContains, PyContains.has, hmem, pyListIndex, addUri]
    · simp [pyContains, PyContains.has, hmem, pyListIndex, pyListAppend, addUri]
  · intro k hk
    have : ¬ ((0 : Int) = k) := by omega
    simp [lookup, this]

/-- C03's `extend_correct`, restated for the generated definition: the i-th URI of a document is found
    in the returned global list at the index the returned map gives for local index i+1 -/
theorem gen_extend_correct (e uris : List Str) (i : Nat) (hi : i < uris.length) :
    ∃ m l g, Gen.extend_namespace_map e uris [(0, 0)] = .ok (m, l) ∧
      lookup (((i : Nat) : Int) + 1) m = some ((g : Nat) : Int) ∧ l[g]? = uris[i]? := by
  obtain ⟨g, h1, h2⟩ := C03.extend_correct e uris i hi
  refine ⟨_, _, g, extend_eq e uris, ?_, h2⟩
  rw [C03.lookup_nsMapOf, h1]; rfl

/-! ### `UAGraph._get_namespace_list` -/

theorem pyFoldE_append (g : Int → Str) (f : Int → List Str → Except PyErr (List Str)) (xs : List Int) (l0 : List Str)
    (hf : ∀ i ∈ xs, ∀ l, f i l = .ok (l ++ [g i])) :
    pyFoldE f xs l0 = .ok (l0 ++ xs.map g) := by
  induction xs generalizing l0 with
  | nil => simp [pyFoldE]
  | cons x r ih =>
    obtain ⟨hx, hr⟩ := List.forall_mem_cons.1 hf
    simp only [pyFoldE, hx]
    rw [ih _ hr]
    simp

/-- the generated function takes a dict with `int` keys, the hand model one with natural-number keys -/
def castKeys (d : List (Nat × Str)) : List (Int × Str) := d.map fun p => ((p.1 : Int), p.2)

theorem lookup_cast (d : List (Nat × Str)) (k : Nat) : lookup (k : Int) (castKeys d) = lookup k d := by
  induction d with
  | nil => rfl
  | cons p r ih =>
    simp only [castKeys, List.map_cons, lookup, Int.natCast_inj] at ih ⊢
    rw [ih]

theorem contains_keys_cast (d : List (Nat × Str)) (k : Nat) : pyContains (pyKeys (castKeys d)) (k : Int) = (lookup k d).isSome := by
  rw [Bool.eq_iff_iff, ← lookup_cast, ← mem_keys_iff]
  exact decide_eq_true_iff

/-- **tie (A) for `UAGraph._get_namespace_list`**: the definition generated from the source computes the hand
    model `namespaceListOfDict` (the object of C03's `namespaceList_at`) on every non-empty dict with
    natural-number keys -/
theorem getNamespaceList_eq (d : List (Nat × Str)) (hne : d ≠ []) :
    Gen.get_namespace_list (castKeys d) = .ok (namespaceListOfDict d) := by
  unfold Gen.get_namespace_list namespaceListOfDict
  have hk : pyKeys (castKeys d) = (d.map Prod.fst).map (fun n : Nat => (n : Int)) := by
    simp [pyKeys, castKeys, List.map_map, Function.comp_def]
  cases hm : (d.map Prod.fst).max? with
  | none => exact absurd (List.map_eq_nil_iff.1 (List.max?_eq_none_iff.1 hm)) hne
  | some m =>
    have hmax : pyMax (pyKeys (castKeys d)) = .ok (m : Int) := by
      obtain ⟨hmem, hle⟩ := List.max?_eq_some_iff.1 hm
      have : (pyKeys (castKeys d)).max? = some (m : Int) := by
        rw [hk]
        refine List.max?_eq_some_iff.2 ⟨List.mem_map_of_mem hmem, fun b hb => ?_⟩
        obtain ⟨a, ha, rfl⟩ := List.mem_map.1 hb
        exact Int.ofNat_le.2 (hle a ha)
      rw [pyMax, this]
    simp only [hmax, bindE, pyRangeFoldE]
    rw [pyFoldE_append (fun i => (lookup i.toNat d).getD "None".toList)]
    · simp [List.map_map, Function.comp_def]
    · intro i hi l
      simp only [List.mem_map, List.mem_range] at hi
      obtain ⟨k, _, rfl⟩ := hi
      have hik : (0 : Int) + (k : Int) = (k : Int) := by omega
      rw [hik, contains_keys_cast]
      cases hv : lookup k d <;> simp [pyAssocGet, lookup_cast, hv, pyListAppend]

/-- C03's `namespaceList_at`, restated for the generated definition -/
theorem gen_namespaceList_at (d : List (Nat × Str)) (i : Nat) (u : Str) (h : lookup i d = some u) :
    ∃ l, Gen.get_namespace_list (castKeys d) = .ok l ∧ l[i]? = some u :=
  ⟨_, getNamespaceList_eq d (List.ne_nil_of_mem (mem_of_lookup h)), C03.namespaceList_at d i u h⟩


/-! ### the XML encoders: generated = hand model

Every `xml_encode` builds its text the same way: `x = "<Tag"`, `if include_xmlns: x += " " + UAXMLNS_ATTRIB`,
then `">"`, the content and `"</Tag>"`. -/

/-- `UAXMLNS_ATTRIB` as the generated text spells it (read from the source by the translator) -/
def xmlnsLit : Str := ['x', 'm', 'l', 'n', 's', '=', '"', 'h', 't', 't', 'p', ':', '/', '/', 'o', 'p', 'c', 'f', 'o', 'u', 'n', 'd', 'a', 't', 'i', 'o', 'n', '.', 'o', 'r', 'g', '/', 'U', 'A', '/', '2', '0', '0', '8', '/', '0', '2', '/', 'T', 'y', 'p', 'e', 's', '.', 'x', 's', 'd', '"']

theorem xmlnsAttr_eq (b : Bool) : xmlnsAttr b = if b then ' ' :: xmlnsLit else [] := by cases b <;> decide +kernel

/-- the conditional `x += …` of the generated code -/
theorem bindE_ite {β : Type} (b : Bool) (x y : Str) (k : Str → Except PyErr β) :
    bindE (if b then .ok (x ++ y) else .ok x) k = k (x ++ if b then y else []) := by cases b <;> simp [bindE]

/-- the scalar encoders, for every tag and content: `x += ">" + content + "</Tag>"` gives `wrap` -/
theorem scalar_shape (tag body : Str) (b : Bool) :
    bindE (if b then .ok (('<' :: tag) ++ ([' '] ++ xmlnsLit)) else .ok ('<' :: tag))
      (fun x => .ok (x ++ ((['>'] ++ body) ++ ('<' :: '/' :: (tag ++ ['>']))))) = (.ok (wrap tag b body) : Except PyErr Str) := by
  rw [bindE_ite, wrap, xmlnsAttr_eq]
  simp

theorem intXml_sbyte (v : Option Int) (b : Bool) : Gen.int_xml_encode_sbyte ⟨v⟩ b = .ok (encodeText (.int .sbyte v) b) := by
  cases v <;> exact scalar_shape (IntKind.tag .sbyte) _ b
theorem intXml_byte (v : Option Int) (b : Bool) : Gen.int_xml_encode_byte ⟨v⟩ b = .ok (encodeText (.int .byte v) b) := by
  cases v <;> exact scalar_shape (IntKind.tag .byte) _ b
theorem intXml_int16 (v : Option Int) (b : Bool) : Gen.int_xml_encode_int16 ⟨v⟩ b = .ok (encodeText (.int .int16 v) b) := by
  cases v <;> exact scalar_shape (IntKind.tag .int16) _ b
theorem intXml_uint16 (v : Option Int) (b : Bool) : Gen.int_xml_encode_uint16 ⟨v⟩ b = .ok (encodeText (.int .uint16 v) b) := by
  cases v <;> exact scalar_shape (IntKind.tag .uint16) _ b
theorem intXml_int32 (v : Option Int) (b : Bool) : Gen.int_xml_encode_int32 ⟨v⟩ b = .ok (encodeText (.int .int32 v) b) := by
  cases v <;> exact scalar_shape (IntKind.tag .int32) _ b
theorem intXml_uint32 (v : Option Int) (b : Bool) : Gen.int_xml_encode_uint32 ⟨v⟩ b = .ok (encodeText (.int .uint32 v) b) := by
  cases v <;> exact scalar_shape (IntKind.tag .uint32) _ b
theorem intXml_int64 (v : Option Int) (b : Bool) : Gen.int_xml_encode_int64 ⟨v⟩ b = .ok (encodeText (.int .int64 v) b) := by
  cases v <;> exact scalar_shape (IntKind.tag .int64) _ b
theorem intXml_uint64 (v : Option Int) (b : Bool) : Gen.int_xml_encode_uint64 ⟨v⟩ b = .ok (encodeText (.int .uint64 v) b) := by
  cases v <;> exact scalar_shape (IntKind.tag .uint64) _ b

theorem boolXml_eq (v : Option Bool) (b : Bool) : Gen.bool_xml_encode ⟨v⟩ b = .ok (encodeText (.bool v) b) := by
  rcases v with _ | _ | _ <;> exact scalar_shape tBoolean _ b

/-- every integer encoder, as the source reads now, is total and emits the model's text (C08's `encodeText`) -/
theorem gen_intXml_all (k : IntKind) (v : Option Int) (b : Bool) :
    ∃ t, (match k with
      | .sbyte => Gen.int_xml_encode_sbyte ⟨v⟩ b | .byte => Gen.int_xml_encode_byte ⟨v⟩ b
      | .int16 => Gen.int_xml_encode_int16 ⟨v⟩ b | .uint16 => Gen.int_xml_encode_uint16 ⟨v⟩ b
      | .int32 => Gen.int_xml_encode_int32 ⟨v⟩ b | .uint32 => Gen.int_xml_encode_uint32 ⟨v⟩ b
      | .int64 => Gen.int_xml_encode_int64 ⟨v⟩ b | .uint64 => Gen.int_xml_encode_uint64 ⟨v⟩ b) = .ok t ∧
      t = encodeText (.int k v) b := by
  cases k
  · exact ⟨_, intXml_sbyte v b, rfl⟩
  · exact ⟨_, intXml_byte v b, rfl⟩
  · exact ⟨_, intXml_int16 v b, rfl⟩
  · exact ⟨_, intXml_uint16 v b, rfl⟩
  · exact ⟨_, intXml_int32 v b, rfl⟩
  · exact ⟨_, intXml_uint32 v b, rfl⟩
  · exact ⟨_, intXml_int64 v b, rfl⟩
  · exact ⟨_, intXml_uint64 v b, rfl⟩

theorem strXml_eq (v : Option Str) (b : Bool) : Gen.str_xml_encode ⟨v⟩ b = .ok (encodeText (.str v) b) := by
  cases v <;> exact scalar_shape tString _ b

/-- `UAGuid` inherits `UAString.xml_encode`: the same generated definition is the model's Guid encoder -/
theorem guidXml_eq (v : Option Str) (b : Bool) : Gen.str_xml_encode ⟨v⟩ b = .ok (encodeText (.guid v) b) :=
  strXml_eq v b

theorem xmlEncode_eq (n : NodeId) (b : Bool) : Gen.nodeid_xml_encode n b = .ok (encodeText (.nodeId n) b) := by
  unfold Gen.nodeid_xml_encode
  rw [print_eq]
  exact scalar_shape tId n.print b

/-- the generated XML encoder never raises and produces the model's `<Identifier>` element -/
theorem gen_xmlEncode_total (n : NodeId) (b : Bool) : ∃ t, Gen.nodeid_xml_encode n b = .ok t ∧ t = encodeText (.nodeId n) b :=
  ⟨_, xmlEncode_eq n b, rfl⟩

/-! The encoders of structures append one child after the other. Once the generated text and the model's nested
`wrap`s are both spelled as characters they differ only in how the appends are associated: re-associating first
(`List.append_assoc`) and only then moving the characters out (`List.cons_append`) keeps that linear in the
length of the text. -/

theorem qnameXml_eq (q : QName) (b : Bool) : Gen.qname_xml_encode q b = .ok (encodeText (.qname q.ns q.name) b) := by
  unfold Gen.qname_xml_encode encodeText wrap
  rw [bindE_ite]
  simp only [xmlnsAttr_eq, xmlnsLit, String.reduceToList, pyFormat, PyFormat.fmt, if_false, Bool.false_eq_true, List.append_assoc]
  simp only [List.cons_append, List.nil_append, List.append_assoc]

theorem locTextXml_eq (t l : Option Str) (b : Bool) : Gen.loctext_xml_encode ⟨t, l⟩ b = .ok (encodeText (.locText t l) b) := by
  -- a missing field is written like the empty text the model substitutes for it
  have h : Gen.loctext_xml_encode ⟨t, l⟩ b = Gen.loctext_xml_encode ⟨some (optS t), some (optS l)⟩ b := by
    cases t <;> cases l <;> rfl
  rw [h]
  unfold Gen.loctext_xml_encode encodeText wrap tLT tLoc tText
  rw [bindE_ite]
  simp only [xmlnsAttr_eq, xmlnsLit, String.reduceToList, pyXmlEscape, if_false, Bool.false_eq_true, List.append_assoc]
  simp only [List.cons_append, List.nil_append, List.append_assoc]

theorem optEn (o : Option Str) : (match o with | some x => x | none => ['e', 'n']) = o.getD ['e', 'n'] := by cases o <;> rfl
theorem optEsc (o : Option Str) : (match o with | some x => pyXmlEscape x | none => ([] : Str)) = Xml.escText (optS o) := by
  cases o <;> simp [optS, pyXmlEscape, Xml.escText]

/-- the element `UAEngineeringUnits.xml_encode` wraps into its extension object (`encodeText (.engUnits …)`): name-space URI
    escaped, unit id as decimal text, a missing Locale written as `en`, texts escaped, locales not -/
theorem euInfoXml_eq (uri : Str) (unit : Int) (dT dL eT eL : Option Str) (b : Bool) :
    Gen.euinfo_xml_encode ⟨uri, unit, ⟨dT, dL⟩, ⟨eT, eL⟩⟩ b =
      .ok (wrap tEU b (wrap tNsUri false (Xml.escText uri) ++ wrap tUnitId false (pyStrInt unit) ++ euLT tDispName dT dL ++ euLT tDescr eT eL)) := by
  -- missing fields are written like the defaults the model substitutes: `en` for a Locale, the empty text for a Text
  have h : Gen.euinfo_xml_encode ⟨uri, unit, ⟨dT, dL⟩, ⟨eT, eL⟩⟩ b =
      Gen.euinfo_xml_encode ⟨uri, unit, ⟨some (optS dT), some (dL.getD "en".toList)⟩, ⟨some (optS eT), some (eL.getD "en".toList)⟩⟩ b := by
    cases dT <;> cases dL <;> cases eT <;> cases eL <;> rfl
  rw [h]
  unfold Gen.euinfo_xml_encode euLT wrap tEU tNsUri tUnitId tDispName tDescr tLoc tText
  rw [bindE_ite]
  simp only [xmlnsAttr_eq, xmlnsLit, String.reduceToList, pyXmlEscape, pyFormat, PyFormat.fmt, if_false, Bool.false_eq_true,
    List.append_assoc]
  simp only [List.cons_append, List.nil_append, List.append_assoc]

/-! ### the JSON encoders: generated = hand model -/

theorem typeInt_eq (n : NodeId) : Gen.nodeid_type_value_to_int n = .ok ((idTypeInt n.ty : Nat) : Int) := by
  rcases n with ⟨ns, ty, ident⟩
  cases ty <;> rfl

theorem jsonEncode_eq (n : NodeId) : Gen.nodeid_json_encode n = .ok (nodeIdJson n) := by
  rcases n with ⟨ns, ty, ident⟩
  unfold Gen.nodeid_json_encode
  rw [typeInt_eq]
  have hd : pyStrInt ((idTypeInt ty : Nat) : Int) = [digitChar (idTypeInt ty)] := (C10.idType_digit ty).symm
  simp only [bindE, pyFormat, PyFormat.fmt, hd]
  by_cases h0 : ns = 0 <;> cases ty <;> simp [nodeIdJson, h0, pyEnumValue, IdType.char, idTypeInt]

/-- towards C10's `nodeId_numeric_valid` for the generated encoder: for a numeric identifier `UANodeId.json_encode` — as the
    source reads now — does not raise, and the strict reader makes of its text what it makes of `nodeIdJson`, the text
    that theorem is about -/
theorem gen_nodeId_numeric_valid (ns k : Nat) :
    ∃ t, Gen.nodeid_json_encode ⟨(ns : Int), .i, showNat k⟩ = .ok t ∧
      parseJson t = parseJson (nodeIdJson ⟨(ns : Int), .i, showNat k⟩) :=
  ⟨_, jsonEncode_eq _, rfl⟩

theorem qnameJson_eq (fs : Int → Str) (q : QName) :
    (Gen.qname_json_encode q).map some = jsonEncode fs (.qname q.ns q.name) := by
  rw [jsonEncode]
  unfold Gen.qname_json_encode
  by_cases h0 : q.ns = 0
  · simp [bindE, h0, Except.map]
  · simp [bindE, h0, Except.map, pyFormat, PyFormat.fmt]

/-- what the model's encoder returns for the integer types below 64 bits -/
theorem jsonEncode_int (fs : Int → Str) (k : IntKind) (hk : is64 k = false) (v : Option Int) :
    jsonEncode fs (.int k v) = .ok (v.map pyStrInt) := by
  rw [jsonEncode]; simp [hk]

theorem intJson_sbyte (fs : Int → Str) (v : Option Int) : Gen.int_json_encode_sbyte ⟨v⟩ = jsonEncode fs (.int .sbyte v) := by
  rw [jsonEncode_int fs _ rfl]; cases v <;> rfl
theorem intJson_byte (fs : Int → Str) (v : Option Int) : Gen.int_json_encode_byte ⟨v⟩ = jsonEncode fs (.int .byte v) := by
  rw [jsonEncode_int fs _ rfl]; cases v <;> rfl
theorem intJson_int16 (fs : Int → Str) (v : Option Int) : Gen.int_json_encode_int16 ⟨v⟩ = jsonEncode fs (.int .int16 v) := by
  rw [jsonEncode_int fs _ rfl]; cases v <;> rfl
theorem intJson_uint16 (fs : Int → Str) (v : Option Int) : Gen.int_json_encode_uint16 ⟨v⟩ = jsonEncode fs (.int .uint16 v) := by
  rw [jsonEncode_int fs _ rfl]; cases v <;> rfl
theorem intJson_int32 (fs : Int → Str) (v : Option Int) : Gen.int_json_encode_int32 ⟨v⟩ = jsonEncode fs (.int .int32 v) := by
  rw [jsonEncode_int fs _ rfl]; cases v <;> rfl
theorem intJson_uint32 (fs : Int → Str) (v : Option Int) : Gen.int_json_encode_uint32 ⟨v⟩ = jsonEncode fs (.int .uint32 v) := by
  rw [jsonEncode_int fs _ rfl]; cases v <;> rfl

/-- C10's `int32_valid` restated for the generated encoder: what `UAInt32.json_encode` — as the source reads now — returns for a
    natural number is its decimal text, and that text is one JSON number token -/
theorem gen_int32_valid (n : Nat) :
    Gen.int_json_encode_int32 ⟨some (n : Int)⟩ = .ok (some (showNat n)) ∧ parseJson (showNat n) = some (.num (showNat n)) := by
  rw [intJson_int32 (fun _ => [])]
  exact C10.int32_valid _ .int32 rfl n

theorem strJson_eq (fs : Int → Str) (v : Option Str) : Gen.str_json_encode ⟨v⟩ = jsonEncode fs (.str v) := by
  rw [jsonEncode]; cases v <;> rfl

/-- the text C10's `string_valid` is about is what the generated encoder returns -/
theorem gen_string_json (s : Str) : Gen.str_json_encode ⟨some s⟩ = .ok (some (pyJsonQuote s)) := rfl

/-- without an override the generated encoder is the model's `ltJson` of the value's own text and locale -/
theorem locTextJson_eq (t l : Option Str) : Gen.loctext_json_encode ⟨t, l⟩ none = .ok (ltJson t l) := by
  unfold Gen.loctext_json_encode ltJson
  cases t <;> cases l <;> simp [bindE, pyJsonDumps]

/-- with an override the Locale member is the override — whatever locale the value holds — and the Text is the value's own -/
theorem locTextJson_override (t l : Option Str) (o : Str) : Gen.loctext_json_encode ⟨t, l⟩ (some o) = .ok (ltJson t (some o)) := by
  unfold Gen.loctext_json_encode ltJson
  cases t <;> simp [bindE, pyJsonDumps]

/-- the generated encoder agrees with `jsonEncode` on LocalizedText values -/
theorem locTextJson_model (fs : Int → Str) (t l : Option Str) :
    (Gen.loctext_json_encode ⟨t, l⟩ none).map some = jsonEncode fs (.locText t l) := by
  rw [locTextJson_eq, jsonEncode]; rfl

open Opcua.C10 in
/-- C10's `locText_valid` restated for the generated encoder: what `UALocalizedText.json_encode()` — as the source reads now —
    returns is one JSON object whose Text / Locale members are exactly the value's text and locale, for every string -/
theorem gen_locText_valid (t : Str) (l : Option Str) :
    ∃ j, Gen.loctext_json_encode ⟨some t, l⟩ none = .ok j ∧
      parseJson j = some (.obj ((kText, .str t) :: (match l with | none => [] | some x => [(kLocale, .str x)]))) := by
  obtain ⟨j, hj, hp⟩ := C10.locText_valid (fun _ => []) t l
  rw [jsonEncode] at hj
  cases hj
  exact ⟨_, locTextJson_eq _ _, hp⟩

end Opcua.Tie
